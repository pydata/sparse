/-
  SparseV.Lemmas.List — facts about `List` (and two about `Except`) that core Lean does not state in this form:
  reading by position with a default (`getD`, the way the model reads shapes, coordinates and index arrays),
  congruence of `flatMap` / `filterMap`, sums, distinct naturals below a bound, sorted lists with the same members.
-/
namespace SparseV

theorem flatMap_congr' {β γ : Type} {l : List β} {f g : β → List γ} (h : ∀ a ∈ l, f a = g a) :
    l.flatMap f = l.flatMap g := by
  rw [List.flatMap_def, List.flatMap_def, List.map_congr_left h]

theorem filterMap_congr_mem {β γ : Type} {f g : β → Option γ} : ∀ {l : List β},
    (∀ x ∈ l, f x = g x) → l.filterMap f = l.filterMap g
  | [], _ => rfl
  | x :: l, h => by
    rw [List.filterMap_cons, List.filterMap_cons, h x List.mem_cons_self,
      filterMap_congr_mem (l := l) fun y hy => h y (List.mem_cons_of_mem _ hy)]

theorem zip_map_fst_snd {β γ : Type} (l : List (β × γ)) : (l.map (·.1)).zip (l.map (·.2)) = l :=
  List.zip_map'.trans (List.map_id' l)

theorem getD_of_lt {β : Type} (l : List β) (k : Nat) (d : β) (h : k < l.length) : l.getD k d = l[k] := by
  rw [List.getD_eq_getElem?_getD, List.getElem?_eq_getElem h, Option.getD_some]

theorem getD_eq_getElem (l : List Nat) {k : Nat} (h : k < l.length) : l.getD k 0 = l[k] := getD_of_lt l k 0 h

theorem getD_mem {β : Type} (l : List β) (k : Nat) (d : β) (h : k < l.length) : l.getD k d ∈ l :=
  getD_of_lt l k d h ▸ List.getElem_mem h

theorem getD_map {β γ : Type} (f : β → γ) (l : List β) (k : Nat) (h : k < l.length) (d : β) (d' : γ) :
    (l.map f).getD k d' = f (l.getD k d) := by
  simp [List.getD_eq_getElem?_getD, h]

theorem getD_map_range {β : Type} (n i : Nat) (f : Nat → β) (d : β) (h : i < n) :
    ((List.range n).map f).getD i d = f i := by
  simp [List.getD_eq_getElem?_getD, h]

theorem map_getD_range {β : Type} (d : β) (l : List β) : (List.range l.length).map (l.getD · d) = l := by
  apply List.ext_getElem
  · simp
  · intro i h1 h2
    simp [List.getD_eq_getElem?_getD, List.getElem?_eq_getElem h2]

theorem ext_getD {a b : List Nat} (hl : a.length = b.length)
    (h : ∀ k, k < a.length → a.getD k 0 = b.getD k 0) : a = b := by
  apply List.ext_getElem hl
  intro k h1 h2
  rw [List.getElem_eq_getD 0, List.getElem_eq_getD 0]
  exact h k h1

theorem getD_set_eq (l : List Nat) (a v : Nat) (h : a < l.length) : (l.set a v).getD a 0 = v := by
  simp [List.getD_eq_getElem?_getD, h]

theorem getD_set_ne (l : List Nat) (a b v : Nat) (h : a ≠ b) : (l.set a v).getD b 0 = l.getD b 0 := by
  simp [List.getD_eq_getElem?_getD, h]

theorem set_getD_self (l : List Nat) (a : Nat) : l.set a (l.getD a 0) = l := by
  apply ext_getD (List.length_set ..)
  intro k hk
  by_cases h : a = k
  · rw [h, getD_set_eq _ _ _ (by simpa using hk)]
  · rw [getD_set_ne _ _ _ _ h]

theorem getD_append_left (A B : List Nat) (k : Nat) (h : k < A.length) : (A ++ B).getD k 0 = A.getD k 0 := by
  simp [List.getD_eq_getElem?_getD, List.getElem?_append_left h]

theorem getD_append_last (A : List Nat) (v : Nat) : (A ++ [v]).getD A.length 0 = v := by
  simp [List.getD_eq_getElem?_getD]

theorem getD_idxOf {l : List Nat} {a : Nat} (h : a ∈ l) : l.getD (l.idxOf a) 0 = a := by
  rw [← List.getElem_eq_getD (h := List.idxOf_lt_length_of_mem h) 0, List.getElem_idxOf]

theorem foldl_add_eq_sum (l : List Int) (a : Int) : l.foldl (· + ·) a = a + l.sum := by
  induction l generalizing a with
  | nil => simp
  | cons x l ih => rw [List.foldl_cons, ih, List.sum_cons]; omega

theorem sum_map_update (f : Nat → Int) (c : Nat) (v : Int) : ∀ (l : List Nat), l.Nodup → c ∈ l →
    (l.map fun c' => if c = c' then v else f c').sum = (l.map f).sum - f c + v
  | [], _, h => by simp at h
  | x :: l, hnd, hm => by
    rw [List.nodup_cons] at hnd
    rw [List.map_cons, List.map_cons, List.sum_cons, List.sum_cons]
    by_cases hx : c = x
    · subst hx
      have : (l.map fun c' => if c = c' then v else f c') = l.map f :=
        List.map_congr_left fun a ha => if_neg fun (h : c = a) => hnd.1 (h ▸ ha)
      rw [this, if_pos rfl]
      omega
    · rw [sum_map_update f c v l hnd.2 ((List.mem_cons.mp hm).resolve_left hx), if_neg hx]
      omega

theorem nodup_below (l : List Nat) (n : Nat) (hnd : l.Nodup) (hlt : ∀ x ∈ l, x < n) :
    l.length ≤ n ∧ (l.length = n → ∀ c, c < n → c ∈ l) ∧ (l.length ≠ n → ∃ c, c < n ∧ c ∉ l) := by
  -- `l` is a rearrangement of the part of `range n` it covers
  have hlen : l.length = ((List.range n).filter (· ∈ l)).length :=
    ((List.perm_ext_iff_of_nodup hnd (List.nodup_range.sublist List.filter_sublist)).mpr fun a => by
      simp only [List.mem_filter, List.mem_range, decide_eq_true_eq]
      exact ⟨fun h => ⟨hlt a h, h⟩, fun h => h.2⟩).length_eq
  have hle := List.length_filter_le (· ∈ l) (List.range n)
  rw [← hlen, List.length_range] at hle
  refine ⟨hle, fun h c hc => ?_, fun h => ?_⟩
  · have := List.length_filter_eq_length_iff.mp (by rw [← hlen, h, List.length_range]) c (List.mem_range.mpr hc)
    exact of_decide_eq_true this
  · obtain ⟨c, hc, hn⟩ := List.length_filter_lt_length_iff_exists.mp
      (by rw [← hlen, List.length_range]; omega : ((List.range n).filter (· ∈ l)).length < _)
    exact ⟨c, List.mem_range.mp hc, fun hm => hn (decide_eq_true hm)⟩

theorem bind_eq_ok {ε β γ : Type} {x : Except ε β} {f : β → Except ε γ} {c : γ} (h : x >>= f = .ok c) :
    ∃ b, x = .ok b ∧ f b = .ok c := by
  cases x with
  | error e => cases h
  | ok b => exact ⟨b, rfl, h⟩

/-- a guard of a `do` block in `Except` -/
theorem throw_if_bind {ε β : Type} (c : Prop) [Decidable c] (e : ε) (k : Except ε β) :
    (do if c then throw e
        k) = if c then .error e else k := by
  split
  · rfl
  · rfl

namespace COO

theorem map_fst_zip_sublist {β γ : Type} : ∀ (ks : List β) (vs : List γ), ((ks.zip vs).map Prod.fst).Sublist ks
  | [], _ => by simp
  | _ :: ks, [] => by simp
  | k :: ks, v :: vs => by
    simp only [List.zip_cons_cons, List.map_cons]
    exact (map_fst_zip_sublist ks vs).cons_cons k

theorem eq_of_sorted_of_mem_iff {β : Type} (f : β → Nat) (l1 l2 : List β)
    (h1 : (l1.map f).Pairwise (· < ·)) (h2 : (l2.map f).Pairwise (· < ·)) (h : ∀ x, x ∈ l1 ↔ x ∈ l2) :
    l1 = l2 := by
  rw [List.pairwise_map] at h1 h2
  have hnd : ∀ {l : List β}, l.Pairwise (fun a b => f a < f b) → l.Nodup := fun hl =>
    List.Pairwise.imp (S := (· ≠ ·)) (fun hab heq => by rw [heq] at hab; exact Nat.lt_irrefl _ hab) hl
  -- same members without repeats: a rearrangement; and the order leaves no choice
  exact ((List.perm_ext_iff_of_nodup (hnd h1) (hnd h2)).mpr h).eq_of_pairwise
    (fun _ _ _ _ hab hba => absurd hab (Nat.lt_asymm hba)) h1 h2

end COO

end SparseV
