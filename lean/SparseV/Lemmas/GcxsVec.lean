/-
  SparseV.Lemmas.GcxsVec — re-compression of a sorted list of linear positions:
  `indices = pos % C`, `indptr = cumsum(bincount(pos // C, minlength=R))` is a well-formed CSR triple of the
  `R × C` view whose entry `(r, c)` is the element at position `r*C + c`; and `GCXS.vecResult` as a whole.
-/
import SparseV.Lemmas.GcxsKey
namespace SparseV
open COO
namespace GIx

theorem countLt_mono (l : List Nat) {k k' : Nat} (h : k ≤ k') : countLt l k ≤ countLt l k' := by
  unfold countLt
  rw [← List.countP_eq_length_filter, ← List.countP_eq_length_filter]
  exact List.countP_mono_left fun x _ hx => by
    rw [decide_eq_true_eq] at hx ⊢
    omega

theorem countLt_le_length (l : List Nat) (k : Nat) : countLt l k ≤ l.length := by
  unfold countLt; exact List.length_filter_le _ _

theorem indptrOf_getD (rows : List Nat) (R r : Nat) (h : r ≤ R) : (indptrOf rows R).getD r 0 = countLt rows r := by
  unfold indptrOf
  rw [List.getD_eq_getElem?_getD, List.getElem?_eq_getElem (by simp; omega)]
  simp

theorem take_countLt (rows : List Nat) (k : Nat) (hs : rows.Pairwise (· ≤ ·)) :
    rows.take (countLt rows k) = rows.filter (· < k) ∧ rows.drop (countLt rows k) = rows.filter (fun r => k ≤ r) := by
  have h := sorted_split k rows hs
  constructor
  · conv => lhs; arg 2; rw [h]
    exact List.take_left' rfl
  · conv => lhs; arg 2; rw [h]
    exact List.drop_left' rfl

theorem row_of_mem_slice {β : Type} (f : β → Nat) (l : List β) (hs : (l.map f).Pairwise (· ≤ ·)) (r : Nat) {x : β}
    (hx : x ∈ rowSlice l (countLt (l.map f) r) (countLt (l.map f) (r + 1))) : f x = r := by
  have hlt : f x ∈ (l.map f).filter (· < r + 1) := by
    rw [← (take_countLt _ (r + 1) hs).1, ← List.map_take]
    exact List.mem_map_of_mem (List.mem_of_mem_drop hx)
  have hge : f x ∈ (l.map f).filter (fun q => r ≤ q) := by
    unfold rowSlice at hx
    rw [List.drop_take] at hx
    rw [← (take_countLt _ r hs).2, ← List.map_drop]
    exact List.mem_map_of_mem (List.mem_of_mem_take hx)
  have h1 := (List.mem_filter.mp hlt).2
  have h2 := (List.mem_filter.mp hge).2
  rw [decide_eq_true_eq] at h1 h2
  omega

theorem indptrOf_csr (qs : List Nat) (dat : List Int) (R C : Nat) (hq : qs.Pairwise (· < ·))
    (hlt : ∀ q ∈ qs, q < R * C) (hd : dat.length = qs.length) :
    CsrWF R C (indptrOf (qs.map (· / C)) R) (qs.map (· % C)) dat.length ∧
    csrEntries (indptrOf (qs.map (· / C)) R) (qs.map (· % C)) dat =
      (qs.zip dat).map fun p => ([p.1 / C, p.1 % C], p.2) := by
  have hrs : (qs.map (· / C)).Pairwise (· ≤ ·) :=
    hq.map _ fun a b h => Nat.div_le_div_right (Nat.le_of_lt h)
  have hrlt : ∀ r ∈ qs.map (· / C), r < R := by
    intro r hr
    obtain ⟨q, hq', rfl⟩ := List.mem_map.mp hr
    apply Nat.div_lt_of_lt_mul
    rw [Nat.mul_comm]; exact hlt q hq'
  constructor
  · refine ⟨by simp [indptrOf], ?_, ?_, by simp [hd], ?_, ?_, ?_⟩
    · rw [indptrOf_getD _ _ _ (Nat.zero_le _)]; simp [countLt]
    · rw [indptrOf_getD _ _ _ (Nat.le_refl _)]
      unfold countLt
      rw [List.filter_eq_self.mpr (fun a ha => by simpa using hrlt a ha)]
      simp
    · intro r hr
      rw [indptrOf_getD _ _ _ (by omega), indptrOf_getD _ _ _ (by omega)]
      exact countLt_mono _ (by omega)
    · intro r hr
      rw [indptrOf_getD _ _ _ (by omega), indptrOf_getD _ _ _ (by omega)]
      unfold rowSlice
      rw [← List.map_take, ← List.map_drop, List.pairwise_map]
      -- the slice of `qs` is increasing and all of it has quotient `r`, so the remainders increase
      refine ((hq.sublist (List.take_sublist _ _)).sublist (List.drop_sublist _ _)).imp_of_mem ?_
      intro a b ha hb hab
      have ha' : a / C = r := row_of_mem_slice (· / C) qs hrs r ha
      have hb' : b / C = r := row_of_mem_slice (· / C) qs hrs r hb
      have e1 := Nat.div_add_mod a C
      have e2 := Nat.div_add_mod b C
      rw [ha'] at e1
      rw [hb'] at e2
      omega
    · intro c hc
      obtain ⟨q, hq', rfl⟩ := List.mem_map.mp hc
      apply Nat.mod_lt
      have := hlt q hq'
      rcases Nat.eq_zero_or_pos C with h0 | h0
      · subst h0; simp at this
      · exact h0
  · unfold csrEntries
    rw [uncompress_indptrOf' _ R hrs hrlt, List.zip_map', List.zip_map_left, List.map_map]
    apply List.map_congr_left
    intro p _
    rfl

end GIx

namespace GCXS
open GIx

theorem tocoo_wf1 (g : GCXS Int) (h : g.WF1) :
    (∀ e ∈ (g.indices.zip g.data).map (fun p => ([p.1], p.2)), InB e.1 g.shape) ∧
    (keysOf ((g.indices.zip g.data).map fun p => ([p.1], p.2))).Nodup ∧
    g.tocoo.shape = g.shape ∧ g.tocoo.fill = g.fill ∧
    ∀ i, g.tocoo.get i = lookup ((g.indices.zip g.data).map fun p => ([p.1], p.2)) g.fill i := by
  obtain ⟨hc, hlen, hd, hs, hlt⟩ := h
  obtain ⟨d0, hsh⟩ := List.length_eq_one_iff.mp hlen
  have hin : ∀ e ∈ (g.indices.zip g.data).map (fun p => ([p.1], p.2)), InB e.1 g.shape := by
    intro e he
    obtain ⟨p, hp, rfl⟩ := List.mem_map.mp he
    have := hlt p.1 (List.of_mem_zip (a := p.1) (b := p.2) hp).1
    rw [hsh] at this ⊢
    exact ⟨by simpa using this, trivial⟩
  have hnd := keys_nodup_map_inj (fun a => [a]) (fun a b h => by simpa using h) (g.indices.zip g.data)
    (by rw [List.map_fst_zip (by omega)]; exact hs)
  obtain ⟨b1, b2, _, _, b5⟩ := build_good g.shape _ g.fill hin hnd
  have htc : g.tocoo = COO.build g.shape ((g.indices.zip g.data).map fun p => ([p.1], p.2)) g.fill := by
    unfold tocoo; rw [hc]; simp [hlen]
  rw [htc]
  exact ⟨hin, hnd, b1, b2, b5⟩

theorem axisOrder_zero (n : Nat) : axisOrder (n + 1) [0] = List.range (n + 1) := by
  unfold axisOrder restAxes
  rw [List.range_succ_eq_map, List.filter_cons, List.filter_map, List.filter_eq_self.mpr (fun a _ => by simp)]
  rfl

theorem vecResult_cons (d0 : Nat) (ds qs : List Nat) (dat : List Int) (fill : Int) (hds : 1 ≤ ds.length)
    (hq : qs.Pairwise (· < ·)) (hlt : ∀ q ∈ qs, q < d0 * prod ds) (hd : dat.length = qs.length) :
    (vecResult (d0 :: ds) qs dat fill).shape = d0 :: ds ∧ (vecResult (d0 :: ds) qs dat fill).fill = fill ∧
    (vecResult (d0 :: ds) qs dat fill).WF ∧
    (vecResult (d0 :: ds) qs dat fill).tocoo.shape = d0 :: ds ∧ (vecResult (d0 :: ds) qs dat fill).tocoo.fill = fill ∧
    ∀ j, InB j (d0 :: ds) →
      (vecResult (d0 :: ds) qs dat fill).tocoo.get j = rowGet (qs.zip dat) fill (ravel j (d0 :: ds)) := by
  have e : vecResult (d0 :: ds) qs dat fill =
      ⟨d0 :: ds, some [0], indptrOf (qs.map (· / prod ds)) d0, qs.map (· % prod ds), dat, fill⟩ :=
    if_neg fun h => absurd (Nat.succ.inj h) (Nat.ne_of_gt hds)
  rw [e]
  obtain ⟨hcsr, hent⟩ := indptrOf_csr qs dat d0 (prod ds) hq hlt hd
  have hg : ∀ xs : List Nat, xs.length = ds.length + 1 → gather xs (axisOrder (d0 :: ds).length [0]) = xs :=
    fun xs hx => by rw [List.length_cons, axisOrder_zero, ← hx, gather_range_self xs]
  have hR : csrR (d0 :: ds) [0] = d0 := by
    unfold csrR
    rw [hg _ rfl]; simp [prod]
  have hC : csrC (d0 :: ds) [0] = prod ds := by
    unfold csrC
    rw [hg _ rfl]; rfl
  have hok : CaxesOk [0] (d0 :: ds).length :=
    CaxesOk.single (Nat.succ_lt_succ (Nat.lt_of_lt_of_le Nat.zero_lt_one hds)) (Nat.zero_lt_succ _)
  have hcsr' : CsrWF (csrR (d0 :: ds) [0]) (csrC (d0 :: ds) [0]) (indptrOf (qs.map (· / prod ds)) d0)
      (qs.map (· % prod ds)) dat.length := by
    rw [hR, hC]
    exact hcsr
  obtain ⟨hin, hnd, _⟩ := csr_facts hcsr'
  obtain ⟨t1, t2, _, _, t5⟩ := tocoo_get_entries
    ⟨d0 :: ds, some [0], indptrOf (qs.map (· / prod ds)) d0, qs.map (· % prod ds), dat, fill⟩ [0] rfl hok.perm hin hnd
  refine ⟨rfl, rfl, (WF_iff rfl).mpr ⟨hok, hcsr'⟩, t1, t2, fun j hj => (t5 j hj).trans ?_⟩
  have hlin : linOf (d0 :: ds) [0] j = ravel j (d0 :: ds) := by
    unfold linOf
    rw [hg j (InB_length hj), hg _ rfl]
  rw [hlin, hC, hent]
  exact lookup_map_inj (fun q => [q / prod ds, q % prod ds]) (fun _ _ h => divmod_inj h) (qs.zip dat) fill
    (ravel j (d0 :: ds))

/-- `vecResult`: the post-processing of the "only compressed / only uncompressed axes" cases of `_getitem`
(1-d result: `WF1`; otherwise `WF` with `compressed_axes = (0,)`) -/
theorem vecResult_spec (shape qs : List Nat) (dat : List Int) (fill : Int) (hrank : 1 ≤ shape.length)
    (hq : qs.Pairwise (· < ·)) (hlt : ∀ q ∈ qs, q < prod shape) (hd : dat.length = qs.length) :
    (vecResult shape qs dat fill).shape = shape ∧ (vecResult shape qs dat fill).fill = fill ∧
    ((vecResult shape qs dat fill).WF ∨ (vecResult shape qs dat fill).WF1) ∧
    (vecResult shape qs dat fill).tocoo.shape = shape ∧ (vecResult shape qs dat fill).tocoo.fill = fill ∧
    ∀ j, InB j shape → (vecResult shape qs dat fill).tocoo.get j = rowGet (qs.zip dat) fill (ravel j shape) := by
  by_cases h1 : shape.length = 1
  · unfold vecResult
    rw [if_pos h1]
    obtain ⟨d0, rfl⟩ := List.length_eq_one_iff.mp h1
    have hwf1 : (GCXS.mk [d0] none [] qs dat fill).WF1 :=
      ⟨rfl, rfl, hd, hq, fun c hc => by simpa [prod] using hlt c hc⟩
    obtain ⟨_, _, t1, t2, t3⟩ := tocoo_wf1 _ hwf1
    refine ⟨rfl, rfl, Or.inr hwf1, t1, t2, fun j hj => ?_⟩
    match j, hj with
    | [a], _ =>
      rw [t3, show ravel [a] [d0] = a by simp [ravel, prod]]
      exact lookup_map_inj (fun a => [a]) (fun a b h => by simpa using h) (qs.zip dat) fill a
  · match shape, hrank, h1, hlt with
    | d0 :: ds, _, h1, hlt =>
      obtain ⟨s1, s2, w1, w⟩ := vecResult_cons d0 ds qs dat fill
        (Nat.pos_of_ne_zero fun h0 => h1 (congrArg (· + 1) h0)) hq hlt hd
      exact ⟨s1, s2, Or.inl w1, w⟩

end GCXS
end SparseV
