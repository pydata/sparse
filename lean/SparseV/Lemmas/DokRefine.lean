/-
  SparseV.Lemmas.DokRefine — the refinement relation behind property C12 (`Agrees`), the one way it
  is established (`agrees_of_reads`), each assignment path from its normalised key on
  (`setRec_refines`, `fancyStore_refines`), index lists against NumPy's keys, element reads, and
  the hypotheses of the property theorems.
-/
import SparseV.Lemmas.DokKey
import SparseV.Props.C02
namespace SparseV
namespace Dok
open Spec
variable {α : Type}

/-- **Agrees.**  The outcome `r` of an assignment in the model (array afterwards and exception, if any)
agrees with NumPy's outcome `s` on the dense array of the state `d` before it. -/
def Agrees (d : DOK α) (r : DOK α × Option Err) (s : Except Err (Dense α)) : Prop :=
  match s with
  | .ok a' => r.2 = none ∧ (∀ k, get r.1 k = a' k) ∧ Canon r.1 ∧ r.1.shape = d.shape ∧ r.1.fill = d.fill
  | .error e => r = (d, some e)

theorem agrees_of_reads {d : DOK α} (hc : Canon d) {es : List (DKey × α)} {a' : Dense α}
    (hi : Inv d.fill es) (hget : alookup es d.fill = a') (hin : ∀ k, a' k ≠ get d k → InBI k d.shape) :
    Agrees d ({ d with entries := es }, none) (.ok a') :=
  ⟨rfl, congrFun hget, canon_of_reads hc hi (hget ▸ hin), rfl, rfl⟩

theorem alookup_storeAll [DecidableEq α] (fill : α) : ∀ (ws es : List (DKey × α)),
    alookup (storeAll fill es ws) fill = assignAll (alookup es fill) ws
  | [], _ => rfl
  | (j, x) :: ws, es =>
    (alookup_storeAll fill ws _).trans
      (congrArg (assignAll · ws) (funext fun i => alookup_store fill es j i x))

theorem storeAll_inv [DecidableEq α] {fill : α} : ∀ (ws : List (DKey × α)) {es : List (DKey × α)},
    Inv fill es → Inv fill (storeAll fill es ws)
  | [], _, h => h
  | (j, x) :: ws, _, h => storeAll_inv ws (store_inv h j x)

theorem assignAll_of_not_mem : ∀ (a : Dense α) (ws : List (DKey × α)) (k : DKey), k ∉ ws.map (·.1) →
    assignAll a ws k = a k
  | _, [], _, _ => rfl
  | a, (j, x) :: ws, k, h => by
    rw [List.map_cons, List.mem_cons, not_or] at h
    rw [assignAll, assignAll_of_not_mem _ ws k h.2, if_neg h.1]

theorem normList_cols (l : List Int) (d : Nat) :
    match normList l d with
    | .ok l' => ∀ j, j < l.length →
        normIdx (l.getD j 0) d = some (l'.getD j 0) ∧ 0 ≤ l'.getD j 0 ∧ l'.getD j 0 < (d : Int)
    | .error e => e = .index ∧ ∃ j, j < l.length ∧ normIdx (l.getD j 0) d = none := by
  by_cases hall : (l.all fun i => decide (-(d : Int) ≤ i) && decide (i < (d : Int))) = true
  · simp only [normList, hall, if_true]
    simp only [List.all_eq_true, Bool.and_eq_true, decide_eq_true_eq] at hall
    intro j hj
    have hin := hall l[j] (List.getElem_mem hj)
    simp only [List.getD_eq_getElem?_getD, List.getElem?_map, List.getElem?_eq_getElem hj, Option.map_some,
      Option.getD_some, normIdx, hin, and_self, if_true, true_and]
    split <;> omega
  · simp only [normList, hall]
    rw [Bool.not_eq_true, List.all_eq_false] at hall
    obtain ⟨i, hi, hni⟩ := hall
    obtain ⟨j, hj, rfl⟩ := List.getElem_of_mem hi
    simp only [Bool.and_eq_true, decide_eq_true_eq] at hni
    refine ⟨rfl, j, hj, ?_⟩
    rw [List.getD_eq_getElem?_getD, List.getElem?_eq_getElem hj, Option.getD_some, normIdx, if_neg hni]

theorem normLists_cols (n : Nat) (idxs : List (List Int)) (shape : List Nat)
    (hlen : idxs.length = shape.length) (hl : ∀ l ∈ idxs, l.length = n) :
    match normLists idxs shape with
    | .ok idxs' => ∀ j, j < n →
        normKey (idxs.map fun l => l.getD j 0) shape = some (idxs'.map fun l => l.getD j 0) ∧
        InBI (idxs'.map fun l => l.getD j 0) shape
    | .error e => e = .index ∧ ∃ j, j < n ∧ normKey (idxs.map fun l => l.getD j 0) shape = none := by
  induction idxs generalizing shape with
  | nil =>
    cases shape with
    | nil => exact fun _ _ => ⟨rfl, trivial⟩
    | cons _ _ => cases hlen
  | cons l ls ih =>
    cases shape with
    | nil => cases hlen
    | cons d ds =>
      have h1 := normList_cols l d
      have h2 := ih ds (Nat.succ.inj hlen) fun m hm => hl m (List.mem_cons_of_mem _ hm)
      rw [hl l List.mem_cons_self] at h1
      simp only [normLists, List.map_cons, normKey]
      cases hn : normList l d with
      | error e =>
        rw [hn] at h1
        obtain ⟨he, j, hj, hk⟩ := h1
        exact ⟨he, j, hj, by rw [hk]⟩
      | ok x =>
        rw [hn] at h1
        cases hns : normLists ls ds with
        | error e =>
          rw [hns] at h2
          obtain ⟨he, j, hj, hk⟩ := h2
          refine ⟨he, j, hj, ?_⟩
          rw [hk]
          cases normIdx (l.getD j 0) d <;> rfl
        | ok xs =>
          rw [hns] at h2
          intro j hj
          obtain ⟨hi, hb⟩ := h1 j hj
          obtain ⟨hk, hin⟩ := h2 j hj
          rw [hi, hk]
          exact ⟨rfl, hb, hin⟩

theorem normKeys_none (shape : List Nat) (f : Nat → DKey) : ∀ (js : List Nat) (j : Nat), j ∈ js →
    normKey (f j) shape = none → normKeys shape (js.map f) = none := by
  intro js
  induction js with
  | nil => intro j hj; simp at hj
  | cons a as ih =>
    intro j hj hn
    simp only [List.map_cons, normKeys]
    rcases List.mem_cons.mp hj with h | h
    · subst h
      rw [hn]
    · rw [ih j h hn]
      cases normKey (f a) shape <;> rfl

theorem normKeys_ok (shape : List Nat) (f g : Nat → DKey) : ∀ (js : List Nat),
    (∀ j ∈ js, normKey (f j) shape = some (g j)) → normKeys shape (js.map f) = some (js.map g) := by
  intro js
  induction js with
  | nil => intro _; rfl
  | cons a as ih =>
    intro h
    simp only [List.map_cons, normKeys, h a List.mem_cons_self,
      ih (fun j hj => h j (List.mem_cons_of_mem _ hj))]

theorem length_zipKeys (idxs : List (List Int)) (n : Nat) : (zipKeys idxs n).length = n := by
  rw [zipKeys, List.length_map, List.length_range]

theorem normLists_keys (n : Nat) (idxs : List (List Int)) (shape : List Nat)
    (hlen : idxs.length = shape.length) (hl : ∀ l ∈ idxs, l.length = n) :
    match normLists idxs shape with
    | .ok idxs' => normKeys shape (zipKeys idxs n) = some (zipKeys idxs' n) ∧ ∀ k ∈ zipKeys idxs' n, InBI k shape
    | .error e => e = .index ∧ normKeys shape (zipKeys idxs n) = none := by
  have hcols := normLists_cols n idxs shape hlen hl
  cases hn : normLists idxs shape with
  | error e =>
    rw [hn] at hcols
    obtain ⟨he, j, hj, hk⟩ := hcols
    exact ⟨he, normKeys_none shape _ (List.range n) j (List.mem_range.mpr hj) hk⟩
  | ok idxs' =>
    rw [hn] at hcols
    refine ⟨normKeys_ok shape _ _ (List.range n) fun j hj => (hcols j (List.mem_range.mp hj)).1, fun k hk => ?_⟩
    obtain ⟨j, hj, rfl⟩ := List.mem_map.mp hk
    exact (hcols j (List.mem_range.mp hj)).2

theorem fancyCheck_cons {shape : List Nat} {l : List Int} {ls : List (List Int)}
    (hlen : (l :: ls).length = shape.length) (hl : ∀ m ∈ l :: ls, m.length = l.length) :
    fancyCheck shape (l :: ls) = .ok l.length := by
  have hany : (l :: ls).any (fun m => decide (m.length ≠ l.length)) = false :=
    List.any_eq_false.mpr fun m hm => fun hd => of_decide_eq_true hd (hl m hm)
  rw [fancyCheck, if_neg (fun h => h hlen)]
  simp only [hany, Bool.false_eq_true, if_false]

theorem exists_ok_of_toBool {ε β : Type} {x : Except ε β} (h : x.toBool = true) : ∃ a, x = .ok a := by
  cases x with
  | error e => cases h
  | ok a => exact ⟨a, rfl⟩

/-- the value rule of `_fancy_setitem` is NumPy's for `n` listed elements: a scalar, `n` values, or one value -/
theorem fancyVals_of_listVals {v : Val α} {n : Nat} {xs : List α} (hflat : v.flat.length = prod v.shape)
    (h : listVals v n = .ok xs) : fancyVals v n = .ok xs := by
  obtain ⟨shape, flat⟩ := v
  unfold listVals at h
  unfold fancyVals
  cases shape with
  | nil =>
    cases flat with
    | nil => cases h
    | cons _ _ => exact h
  | cons m ms =>
    cases ms with
    | cons _ _ => cases h
    | nil =>
      simp only [prod, Nat.mul_one] at hflat
      subst hflat
      cases flat with
      | nil =>
        simp only [List.length_nil] at h ⊢
        rw [if_neg (by decide)]
        split at h
        · next hh => rw [if_pos hh.1]; exact h
        · cases h
      | cons x t =>
        simp only at h ⊢
        by_cases hm1 : (x :: t).length = 1
        · rw [if_pos hm1]
          split at h
          · next hh =>
            obtain rfl : t = [] := List.eq_nil_of_length_eq_zero (Nat.succ.inj hm1)
            cases h
            rw [← hh.1]
            rfl
          · exact h
        · rw [if_neg hm1]
          split at h
          · next hh => rw [if_pos hh.1]; exact h
          · cases h

/-- **the tail of `_fancy_setitem`** (value rule, then one store per listed key) against sequential
element assignment on the dense array -/
theorem fancyStore_refines [DecidableEq α] (d : DOK α) (keys : List DKey) (v : Val α) (xs : List α) (hc : Canon d)
    (hflat : v.flat.length = prod v.shape) (hv : listVals v keys.length = .ok xs)
    (hin : ∀ k ∈ keys, InBI k d.shape) :
    Agrees d (fancyStore d keys v) (.ok (assignAll (get d) (keys.zip xs))) := by
  simp only [fancyStore, fancyVals_of_listVals hflat hv]
  refine agrees_of_reads hc (storeAll_inv _ (canon_inv hc)) (alookup_storeAll d.fill _ d.entries)
    fun k hne => ?_
  apply Classical.byContradiction
  intro hk
  refine hne (assignAll_of_not_mem _ _ _ fun hmem => hk ?_)
  obtain ⟨w, hw, rfl⟩ := List.mem_map.mp hmem
  exact hin _ (List.of_mem_zip hw).1

/-- **the tail of `__setitem__`** (the recursion over a normalised key) against NumPy's assignment over
the selection, for a value broadcastable to a selection inside the shape -/
theorem setRec_refines [DecidableEq α] (bounds : Option Int → Option Int → Option Int → Int → Int × Int × Int)
    (d : DOK α) (nk : List (NPart × Int)) (v : Val α) (hc : Canon d) (hb : BoundsOKAll bounds nk)
    (hbc : Broadcastable v (gridShape (nkSels nk)) = true)
    (hin : ∀ k p, posOf (nkSels nk) k = some p → InBI k d.shape) :
    Agrees d ({ d with entries := (setRec bounds d.fill nk [] v d.entries).1 }, (setRec bounds d.fill nk [] v d.entries).2)
      (.ok (dSetSel (get d) (nkSels nk) v)) := by
  obtain ⟨hnone, hget⟩ := setRec_spec bounds d.fill nk [] v _ d.entries hb (desc_of_broadcastable hbc)
  rw [hnone]
  refine agrees_of_reads hc (setRec_preserves bounds d.fill (Inv d.fill) (fun es k x h => store_inv h k x)
    nk [] v d.entries (canon_inv hc)) hget fun k hne => ?_
  obtain ⟨p, hp⟩ := assignAt_ne hne
  exact hin k p hp

theorem mem_maskKeys {shape : List Nat} {m : List Bool} {k : DKey} (h : k ∈ maskKeys shape m) : InBI k shape := by
  obtain ⟨kb, hkb, hsome⟩ := List.mem_filterMap.mp h
  split at hsome
  · cases hsome
    exact (mem_allKeys shape kb.1).mp (List.of_mem_zip hkb).1
  · cases hsome

/-- the parts read back as `getInt` reads them -/
theorem normParts_ints (key : List Int) (shape : List Nat) (h : key.length = shape.length) :
    match normParts (key.map .int) shape with
    | .ok nk => normKey key shape = some (nk.map fun p => match p.1 with | .int n => n | .slice _ _ _ => 0)
    | .error e => e = .index ∧ normKey key shape = none := by
  induction key generalizing shape with
  | nil =>
    cases shape with
    | nil => exact rfl
    | cons _ _ => cases h
  | cons i is ih =>
    cases shape with
    | nil => cases h
    | cons d ds =>
      have ih := ih ds (Nat.succ.inj h)
      simp only [List.map_cons, normParts, normPart, C02.normalize_int_spec, normKey, normIdx]
      by_cases hc : -(d : Int) ≤ i ∧ i < d
      · simp only [hc, and_self, if_true]
        cases hn : normParts (is.map .int) ds with
        | error e =>
          rw [hn] at ih
          simp only [ih.2]
          exact ⟨ih.1, trivial⟩
        | ok nk =>
          rw [hn] at ih
          simp only [ih]
          rfl
      · simp only [hc, if_false, and_self]

/-- **reading one element** `d[i0, i1, …]`, one integer per axis: NumPy's rule, and the value `get` that the
history theorems speak about. -/
theorem getInt_spec (d : DOK α) (key : List Int) (h : key.length = d.shape.length) :
    getInt d key = match normKey key d.shape with
      | some k' => .ok (get d k')
      | none => .error .index := by
  have hp := normParts_ints key d.shape h
  have hlen : ¬ (key.map KeyPart.int).length > d.shape.length := by rw [List.length_map, h]; exact Nat.lt_irrefl _
  have hpad : padKey (key.map KeyPart.int) d.shape.length = key.map KeyPart.int := by
    rw [padKey, List.length_map, h, Nat.sub_self]
    exact List.append_nil _
  have hk : ¬ key.length ≠ d.shape.length := fun hh => hh h
  simp only [getInt, normalizeKey, hlen, if_false, hpad, hk]
  cases hn : normParts (key.map .int) d.shape with
  | error e =>
    rw [hn] at hp
    rw [hp.1, hp.2]
  | ok nk =>
    rw [hn] at hp
    rw [hp]
    rfl

/-- the grammar of a key/value pair: non-zero steps, value broadcastable to what the key selects -/
def WFSet (shape : List Nat) (key : List KeyPart) (v : Val α) : Prop :=
  key.all stepNonzero = true ∧
  ∀ sels, pySels (padKey key shape.length) shape = .ok sels → Broadcastable v (gridShape sels) = true

theorem wfSet_of_wfOp {shape : List Nat} {key : List KeyPart} {v : Val α}
    (h : WFOp shape (.set key v) = true) : WFSet shape key v := by
  simp only [WFOp, valueFits, Bool.and_eq_true, beq_iff_eq] at h
  refine ⟨h.2.1, fun sels hs => ?_⟩
  have := h.1
  rw [hs] at this
  exact this

end Dok
end SparseV
