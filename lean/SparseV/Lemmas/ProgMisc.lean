/-
  SparseV.Lemmas.ProgMisc — step lemmas of the program theorem for triu / tril, diagonal and the
  format round trips (COO → GCXS → COO, COO → DOK → COO).
-/
import SparseV.Lemmas.ProgBase
import SparseV.Lemmas.ProgShape
import SparseV.Lemmas.Compress
import SparseV.Props.C06
import SparseV.Props.C09
import SparseV.Props.C05
namespace SparseV
open SparseV.COO

theorem build_entries_distinct (shape : List Nat) (es : List (Idx × Int)) (d : Int)
    (hnd : (keysOf es).Nodup) (hwf : ∀ e ∈ es, InB e.1 shape) :
    (COO.build shape es d).entries = sortEntries shape es := by
  simp only [COO.build, Bool.false_eq_true, if_false, if_true]
  exact sumDup_eq_self_of_sortedLin shape _ (sortEntries_sortedLin shape es hnd hwf)

theorem build_distinct_good (shape : List Nat) (es : List (Idx × Int)) (d : Int)
    (hnd : (keysOf es).Nodup) (hwf : ∀ e ∈ es, InB e.1 shape) :
    Good (COO.build shape es d) ∧ (∀ e ∈ (COO.build shape es d).entries, e ∈ es) := by
  obtain ⟨h1, h2⟩ := build_wf_sorted shape es d false hwf
  refine ⟨⟨h1, h2⟩, ?_⟩
  intro e he
  rw [build_entries_distinct shape es d hnd hwf] at he
  exact mem_sortEntries.mp he

theorem filter_good {x : COO Int} (hg : Good x) (hf : x.fill = 0) (p : Idx × Int → Bool) :
    Good { shape := x.shape, fill := 0, entries := x.entries.filter p } ∧
    (x.NoFill → COO.NoFill { shape := x.shape, fill := 0, entries := x.entries.filter p }) :=
  ⟨⟨fun e he => hg.wf e (List.mem_filter.mp he).1, C06.filter_canonical _ _ _ hg.sorted⟩,
    fun hx e he => hf ▸ hx e (List.mem_filter.mp he).1⟩

theorem tri_step (upper : Bool) (k : Int) (x : COO Int) (d : Dense) (hg : Good x) (hr : Refines x d) :
    Sim x.NoFill (Expr.mTri upper x k) (Expr.sTri upper d k) := by
  unfold Expr.mTri Expr.sTri
  rw [← hr.shape, ← hr.fill]
  refine SimR.reject fun hf => SimR.reject fun _ => ?_
  have hf : x.fill = 0 := Decidable.not_not.mp hf
  have hlk : ∀ j, COO.lookup x.entries 0 j = x.get j := by intro j; rw [COO.get, hf]
  cases upper with
  | true =>
    refine Sim.ok (filter_good hg hf _).1 (filter_good hg hf _).2 ⟨rfl, rfl, fun j hj => ?_⟩
    rw [if_pos rfl, C09.triu_get, hlk]
    show _ = if decide (_ ≤ _) = true then d.val j else 0
    simp only [decide_eq_true_eq, ← hr.val j hj]
  | false =>
    refine Sim.ok (filter_good hg hf _).1 (filter_good hg hf _).2 ⟨rfl, rfl, fun j hj => ?_⟩
    rw [if_neg Bool.false_ne_true, C09.tril_get, hlk]
    show _ = if decide (_ ≥ _) = true then d.val j else 0
    simp only [decide_eq_true_eq, ← hr.val j hj]

theorem diagonal_step (offset axis1 axis2 : Int) (x : COO Int) (d : Dense) (hg : Good x) (hr : Refines x d) :
    Sim x.NoFill (Expr.mDiagonal x offset axis1 axis2) (Expr.sDiagonal d offset axis1 axis2) := by
  unfold Expr.mDiagonal Expr.sDiagonal
  rw [normAxis_eq_npAxis, normAxis_eq_npAxis, ← hr.shape]
  cases h1 : npAxis axis1 x.shape.length with
  | error e => exact Sim.err e
  | ok a1 =>
    cases h2 : npAxis axis2 x.shape.length with
    | error e => exact Sim.err e
    | ok a2 =>
      simp only []
      refine SimR.reject fun hne => SimR.reject fun hsq => ?_
      have hl1 := npAxis_lt h1
      have hl2 := npAxis_lt h2
      obtain ⟨hshape, hfill, hget⟩ := C09.diagonal_get x offset a1 a2 (x.shape.getD a1 0) hg.wf hg.nodup hne
        hl1 hl2 rfl (Decidable.not_not.mp hsq).symm
      have hcore : x.diagonalCore offset a1 a2 = COO.build (x.diagonalCore offset a1 a2).shape
          (mapIdx (gather · (diagAxes x.shape.length a1 a2 offset))
            (x.entries.filter fun e => decide ((e.1.getD a1 0 : Int) + offset = (e.1.getD a2 0 : Int)))) x.fill := rfl
      have hsel : ∀ e ∈ x.entries.filter (fun e => decide ((e.1.getD a1 0 : Int) + offset = (e.1.getD a2 0 : Int))),
          e ∈ x.entries ∧ (e.1.getD a1 0 : Int) + offset = (e.1.getD a2 0 : Int) :=
        fun e he => ⟨(List.mem_filter.mp he).1, of_decide_eq_true (List.mem_filter.mp he).2⟩
      have hselnd : (keysOf (x.entries.filter fun e => decide ((e.1.getD a1 0 : Int) + offset = (e.1.getD a2 0 : Int)))).Nodup :=
        List.Nodup.sublist (List.Sublist.map _ List.filter_sublist) hg.nodup
      generalize (x.entries.filter fun e => decide ((e.1.getD a1 0 : Int) + offset = (e.1.getD a2 0 : Int))) = sel
        at hcore hsel hselnd
      have hnd' : (keysOf (mapIdx (gather · (diagAxes x.shape.length a1 a2 offset)) sel)).Nodup := by
        refine mapIdx_nodup _ _ (diagSrc x.shape.length a1 a2 offset) (fun e he => ?_) hselnd
        exact diagSrc_gather _ _ _ _ _ (InB_length (hg.wf e (hsel e he).1)) (hsel e he).2
      have hwf' : ∀ e ∈ mapIdx (gather · (diagAxes x.shape.length a1 a2 offset)) sel,
          InB e.1 (x.diagonalCore offset a1 a2).shape := by
        intro e he
        rw [hshape]
        obtain ⟨e0, he0, rfl⟩ := List.mem_map.mp he
        exact InB_gather_diagAxes x.shape a1 a2 _ offset e0.1 (hg.wf e0 (hsel e0 he0).1) hl1 hl2 rfl
          (Decidable.not_not.mp hsq).symm (hsel e0 he0).2
      obtain ⟨hgood, hmem⟩ := build_distinct_good _ _ x.fill hnd' hwf'
      rw [← hcore] at hgood hmem
      refine Sim.ok hgood (noFill_of_vals hfill fun e he => ?_) ⟨hshape, hfill.trans hr.fill, fun j hj => ?_⟩
      · obtain ⟨e0, he0, rfl⟩ := List.mem_map.mp (hmem e he)
        exact ⟨e0, (hsel e0 he0).1, rfl⟩
      · rw [(hget j (hshape ▸ hj)).2]
        exact hr.val _ (hget j (hshape ▸ hj)).1

theorem viaDok_step (x : COO Int) (d : Dense) (hg : Good x) (hr : Refines x d) :
    Sim x.NoFill (Expr.mViaDok x) (Expr.sViaDok d) := by
  unfold Expr.mViaDok Expr.sViaDok SArr.toCoo
  obtain ⟨hgood, hmem⟩ := build_distinct_good x.shape x.entries x.fill hg.nodup hg.wf
  refine Sim.ok hgood ?_ ⟨hr.shape, hr.fill, ?_⟩
  · intro hx e he
    exact hx e (hmem e he)
  · intro j hj
    rw [lookup_build_distinct x.shape x.entries x.fill false hg.nodup hg.wf j]
    exact hr.val j hj

namespace GCXS

theorem tocoo_fromCooCore_good (x : COO Int) (caxes : List Nat) (hwf : x.WF) (hnd : (keysOf x.entries).Nodup)
    (hcnd : caxes.Nodup) (hclt : ∀ a ∈ caxes, a < x.shape.length) :
    SortedLin (fromCooCore x caxes).tocoo.shape (fromCooCore x caxes).tocoo.entries ∧
    ∀ e ∈ (fromCooCore x caxes).tocoo.entries, ∃ e0 ∈ x.entries, e.2 = e0.2 := by
  have hperm := axisOrder_perm x.shape.length caxes hcnd hclt
  obtain ⟨hplen, _, _⟩ := perm_range_facts hperm
  rw [tocoo_fromCooCore_eq x caxes hwf hperm]
  obtain ⟨hes_in, hes_nd, _⟩ := csEs_facts x caxes hwf hnd hperm
  have hc2 := build_wf_sorted [csrR x.shape caxes, csrC x.shape caxes] (csEs x caxes) x.fill false hes_in
  have hc2mem := (build_distinct_good [csrR x.shape caxes, csrC x.shape caxes] (csEs x caxes) x.fill hes_nd hes_in).2
  have hc2shape : (COO.build [csrR x.shape caxes, csrC x.shape caxes] (csEs x caxes) x.fill false true false).shape
      = [csrR x.shape caxes, csrC x.shape caxes] := rfl
  have hsize : prod (COO.build [csrR x.shape caxes, csrC x.shape caxes] (csEs x caxes) x.fill false true false).shape
      = prod (gather x.shape (axisOrder x.shape.length caxes)) := by
    rw [hc2shape, ← csrR_mul_csrC, prod, prod, prod, Nat.mul_one]
  obtain ⟨hy1sh, _, hy1wf⟩ := COO.reshapeCore_facts _ _ hc2.1 hsize
  have hy1sorted := COO.reshapeCore_sorted _ _ hc2.1 hsize hc2.2
  have hqperm : (invPerm (axisOrder x.shape.length caxes)).Perm
      (List.range ((COO.build [csrR x.shape caxes, csrC x.shape caxes] (csEs x caxes) x.fill false true false).reshapeCore
        (gather x.shape (axisOrder x.shape.length caxes))).shape.length) := by
    rw [hy1sh, length_gather, hplen]
    exact invPerm_perm hperm
  refine ⟨(COO.transposeCore_facts _ _ hqperm hy1wf (by rw [hy1sh]; exact hy1sorted)).2.2.2, ?_⟩
  intro e he
  obtain ⟨e1, he1, h1⟩ := vals_transposeCore _ _ e he
  obtain ⟨e2, he2, h2⟩ := vals_reshapeCore _ _ e1 he1
  have he3 := hc2mem e2 he2
  obtain ⟨e0, he0, h3⟩ := List.mem_map.mp ((csEs_perm x caxes hwf hperm).mem_iff.mp he3)
  exact ⟨e0, he0, by rw [h1, h2, ← h3]⟩

theorem build_self_good (x : COO Int) (hwf : x.WF) (hnd : (keysOf x.entries).Nodup) :
    SortedLin (COO.build x.shape x.entries x.fill).shape (COO.build x.shape x.entries x.fill).entries ∧
    ∀ e ∈ (COO.build x.shape x.entries x.fill).entries, ∃ e0 ∈ x.entries, e.2 = e0.2 := by
  obtain ⟨hgood, hmem⟩ := build_distinct_good x.shape x.entries x.fill hnd hwf
  exact ⟨hgood.sorted, fun e he => ⟨e, hmem e he, rfl⟩⟩

/-- `_from_coo` accepts exactly what `gcxsAxesOk` accepts and rejects the rest with `ValueError`, at every rank -/
theorem fromCoo_cases (x : COO Int) (c : Option (List Nat)) (hwf : x.WF) (hnd : (keysOf x.entries).Nodup) :
    (gcxsAxesOk x.shape.length c = false ∧ fromCoo x c = .error .value) ∨
    (gcxsAxesOk x.shape.length c = true ∧ ∃ g, fromCoo x c = .ok g ∧
      SortedLin g.tocoo.shape g.tocoo.entries ∧ ∀ e ∈ g.tocoo.entries, ∃ e0 ∈ x.entries, e.2 = e0.2) := by
  unfold fromCoo
  split
  · rename_i hlen
    cases c with
    | some _ => exact Or.inl ⟨by simp [gcxsAxesOk, hlen], rfl⟩
    | none =>
      refine Or.inr ⟨by simp [gcxsAxesOk, hlen], _, rfl, ?_⟩
      rw [tocoo_rank0 x hwf hlen]
      exact build_self_good x hwf hnd
  · rename_i hlen
    cases c with
    | some _ => exact Or.inl ⟨by simp [gcxsAxesOk, hlen], rfl⟩
    | none =>
      refine Or.inr ⟨by simp [gcxsAxesOk, hlen], _, rfl, ?_⟩
      rw [tocoo_rank1 x hwf hlen]
      exact build_self_good x hwf hnd
  · rename_i n hlen
    cases c with
    | none =>
      -- the default: the first shortest axis
      refine Or.inr ⟨by simp [gcxsAxesOk, hlen], _, rfl, ?_⟩
      refine tocoo_fromCooCore_good x _ hwf hnd (List.pairwise_singleton _ _) fun a ha => ?_
      rw [List.mem_singleton.mp ha]
      exact minAxis_lt x.shape (by omega)
    | some cx =>
      simp only
      by_cases h1 : cx.length ≥ n + 2
      · rw [if_pos h1]
        exact Or.inl ⟨by simp [gcxsAxesOk, hlen, h1], rfl⟩
      · rw [if_neg h1]
        by_cases h2 : cx.Pairwise (· < ·)
        · rw [if_neg (by simpa using h2)]
          by_cases h3 : cx.any (· ≥ n + 2) = true
          · rw [if_pos h3]
            exact Or.inl ⟨by simp only [gcxsAxesOk, hlen, h3, Bool.not_true, Bool.and_false], rfl⟩
          · rw [if_neg h3]
            have hall : ∀ a ∈ cx, a < n + 2 := by
              intro a ha
              simp only [List.any_eq_true, decide_eq_true_eq, not_exists, not_and] at h3
              have := h3 a ha
              omega
            refine Or.inr ⟨?_, _, rfl, ?_⟩
            · have h3' : cx.any (fun a => decide (a ≥ n + 2)) = false := by simpa using h3
              have h1' : decide (cx.length ≥ n + 2) = false := by simpa using h1
              simp only [gcxsAxesOk, hlen, h1', h3', decide_eq_true h2, Bool.not_false, Bool.and_self]
            · exact tocoo_fromCooCore_good x cx hwf hnd (h2.imp fun {a b} hab => by omega) (hlen ▸ hall)
        · rw [if_pos (by simpa using h2)]
          have h2' : decide (List.Pairwise (fun a b => a < b) cx) = false := by simpa using h2
          exact Or.inl ⟨by simp only [gcxsAxesOk, hlen, h2', Bool.and_false, Bool.false_and], rfl⟩

end GCXS

theorem viaGcxs_step (c : Option (List Nat)) (x : COO Int) (d : Dense) (hg : Good x) (hr : Refines x d) :
    Sim x.NoFill (Expr.mViaGcxs x c) (Expr.sViaGcxs d c) := by
  unfold Expr.mViaGcxs Expr.sViaGcxs
  rw [← hr.shape]
  rcases GCXS.fromCoo_cases x c hg.wf hg.nodup with ⟨hbad, herr⟩ | ⟨hok, g, hfc, hsorted, hvals⟩
  · rw [herr, hbad]
    exact Sim.err _
  · obtain ⟨hget, hshape, hfill, hwf, _⟩ := C05.tocoo_fromCoo_ok x c g hfc hg.wf hg.nodup
    rw [hfc, hok]
    refine Sim.ok ⟨hwf, hsorted⟩ (noFill_of_vals hfill hvals) ⟨hshape.trans hr.shape, hfill.trans hr.fill, fun i hi => ?_⟩
    rw [hshape] at hi
    rw [hget i hi]
    exact hr.val i hi

end SparseV
