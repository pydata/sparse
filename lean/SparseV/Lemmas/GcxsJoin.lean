/-
  SparseV.Lemmas.GcxsJoin — GCXS `concatenate` / `stack`: a well-formed CSR triple is assembled from its rows; splicing
  index pointers with running offsets concatenates the row lists; the n-d statement for `concatenate`; inserting a
  unit axis (`stack` is `concatenate` of the members reshaped with one).
-/
import SparseV.Lemmas.GcxsReduce
import SparseV.Model.GcxsJoin
namespace SparseV
open COO Spec GIx
namespace GIx

def rowsOf (R : Nat) (indptr indices : List Nat) (data : List Int) : List (List (Nat × Int)) :=
  (List.range R).map (csrRow indptr indices data)

theorem rowsOf_getD (R : Nat) (indptr indices : List Nat) (data : List Int) (t : Nat) (ht : t < R) :
    (rowsOf R indptr indices data).getD t [] = csrRow indptr indices data t := by
  unfold rowsOf
  rw [getD_map _ _ _ (by simpa using ht) 0]
  simp [List.getD_eq_getElem?_getD, ht]

theorem csr_decompose (R C : Nat) (indptr indices : List Nat) (data : List Int)
    (h : CsrWF R C indptr indices data.length) :
    indptr = 0 :: cumLens 0 ((rowsOf R indptr indices data).map List.length) ∧
    indices = (rowsOf R indptr indices data).flatten.map (·.1) ∧
    data = (rowsOf R indptr indices data).flatten.map (·.2) := by
  have hrowlen : ∀ r, r < R → (csrRow indptr indices data r).length = indptr.getD (r + 1) 0 - indptr.getD r 0 := by
    intro r hr
    unfold csrRow
    rw [List.length_zip, csr_slice_length h indices rfl hr,
      csr_slice_length h data h.data_len hr, Nat.min_self]
  refine ⟨?_, ?_, ?_⟩
  · refine eq_cumLens _ 0 indptr (by rw [h.ptr_len, List.length_map, rowsOf, List.length_map, List.length_range])
      h.ptr_zero fun r hr => ?_
    rw [List.length_map, rowsOf, List.length_map, List.length_range] at hr
    simp only [rowsOf, List.getElem_map, List.getElem_range]
    rw [hrowlen r hr]
    exact (Nat.add_sub_cancel' (h.ptr_mono r hr)).symm
  · have hI := csr_eq_slices h indices rfl
    conv => lhs; rw [hI]
    unfold rowsOf
    rw [List.map_flatten, List.map_map, ← List.flatMap_def]
    apply flatMap_congr'
    intro r _
    exact (csrRow_fst h r).symm
  · have hD := csr_eq_slices h data h.data_len
    conv => lhs; rw [hD]
    unfold rowsOf
    rw [List.map_flatten, List.map_map, ← List.flatMap_def]
    apply flatMap_congr'
    intro r _
    exact (csrRow_snd h r).symm

theorem cumLens_shift : ∀ (l : List Nat) (a b : Nat), (cumLens a l).map (· + b) = cumLens (a + b) l
  | [], _, _ => rfl
  | n :: ns, a, b => by
    simp only [cumLens, List.map_cons]
    rw [cumLens_shift ns (a + n) b]
    have e : a + n + b = a + b + n := by omega
    rw [e]

theorem cumLens_append : ∀ (l1 l2 : List Nat) (a : Nat), cumLens a (l1 ++ l2) = cumLens a l1 ++ cumLens (a + l1.sum) l2
  | [], l2, a => by simp [cumLens]
  | n :: ns, l2, a => by
    simp only [List.cons_append, cumLens, List.sum_cons]
    rw [cumLens_append ns l2 (a + n), Nat.add_assoc]

theorem spliceGo_lens : ∀ (Ls : List (List Nat)) (off : Nat),
    spliceGo off (Ls.map fun lens => (0 :: cumLens 0 lens, lens.sum)) = cumLens off Ls.flatten
  | [], _ => rfl
  | lens :: Ls, off => by
    simp only [List.map_cons, spliceGo, List.drop_one, List.tail_cons, List.flatten_cons]
    rw [cumLens_shift, Nat.zero_add, spliceGo_lens Ls, cumLens_append]

theorem splice_lens : ∀ (Ls : List (List Nat)), Ls ≠ [] →
    splice (Ls.map fun lens => (0 :: cumLens 0 lens, lens.sum)) = 0 :: cumLens 0 Ls.flatten
  | [], h => absurd rfl h
  | lens :: Ls, _ => by
    simp only [List.map_cons, splice, List.flatten_cons]
    rw [spliceGo_lens, cumLens_append, Nat.zero_add]
    rfl

theorem flatten_flatMap {β γ : Type} (f : β → List (List γ)) : ∀ (l : List β),
    (l.flatMap f).flatten = l.flatMap fun x => (f x).flatten
  | [] => rfl
  | a :: l => by simp [List.flatMap_cons, flatten_flatMap f l]

theorem flatten_getD {β : Type} (d : β) (Ls : List (List β)) (k t : Nat) (hk : k < Ls.length)
    (ht : t < (Ls.getD k []).length) :
    Ls.flatten.getD (((Ls.map List.length).take k).sum + t) d = (Ls.getD k []).getD t d := by
  rw [← List.getElem_eq_getD (h := hk)] at ht ⊢
  have h := rowSlice_flatten Ls k hk
  rw [← rowSlice_getD Ls.flatten _ _ t d d (by rw [h]; exact ht), h]

/-- the splice of `concatenate` / `stack` on CSR triples with a common number of columns: row `ρ` of the result is
row `t` of member `k`, where `(k, t) = locate (rows per member) ρ` -/
theorem joinRows_csr (xs : List (GCXS Int)) (d0 : GCXS Int) (hne : xs ≠ []) (Rf : GCXS Int → Nat) (C : Nat)
    (h : ∀ x ∈ xs, CsrWF (Rf x) C x.indptr x.indices x.data.length) :
    CsrWF (xs.map Rf).sum C (splice (xs.map fun x => (x.indptr, x.indices.length))) (xs.flatMap (·.indices))
      (xs.flatMap (·.data)).length ∧
    ∀ ρ, ρ < (xs.map Rf).sum →
      csrRow (splice (xs.map fun x => (x.indptr, x.indices.length))) (xs.flatMap (·.indices)) (xs.flatMap (·.data)) ρ
        = csrRow ((xs.getD (locate (xs.map Rf) ρ).1 d0).indptr) ((xs.getD (locate (xs.map Rf) ρ).1 d0).indices)
            ((xs.getD (locate (xs.map Rf) ρ).1 d0).data) (locate (xs.map Rf) ρ).2 := by
  obtain ⟨F, hF⟩ : ∃ F : GCXS Int → List (List (Nat × Int)), ∀ x, F x = rowsOf (Rf x) x.indptr x.indices x.data :=
    ⟨_, fun _ => rfl⟩
  have hFlen : ∀ x, (F x).length = Rf x := fun x => by rw [hF]; simp [rowsOf]
  have hdec : ∀ x ∈ xs, x.indptr = 0 :: cumLens 0 ((F x).map List.length) ∧
      x.indices = (F x).flatten.map (·.1) ∧ x.data = (F x).flatten.map (·.2) :=
    fun x hx => by rw [hF]; exact csr_decompose _ _ _ _ _ (h x hx)
  have hsplice : splice (xs.map fun x => (x.indptr, x.indices.length))
      = 0 :: cumLens 0 ((xs.flatMap F).map List.length) := by
    have e1 : (xs.map fun x => (x.indptr, x.indices.length))
        = (xs.map fun x => (F x).map List.length).map fun lens => (0 :: cumLens 0 lens, lens.sum) := by
      rw [List.map_map]
      apply List.map_congr_left
      intro x hx
      obtain ⟨d1, d2, _⟩ := hdec x hx
      have hl : x.indices.length = ((F x).map List.length).sum := by
        conv => lhs; rw [d2]
        rw [List.length_map, List.length_flatten]
      simp only [Function.comp]
      rw [← d1, ← hl]
    rw [e1, splice_lens _ (by simpa using hne), List.map_flatMap, List.flatMap_def]
  have hind : xs.flatMap (·.indices) = (xs.flatMap F).flatten.map (·.1) := by
    rw [flatten_flatMap, List.map_flatMap]
    exact flatMap_congr' fun x hx => (hdec x hx).2.1
  have hdat : xs.flatMap (·.data) = (xs.flatMap F).flatten.map (·.2) := by
    rw [flatten_flatMap, List.map_flatMap]
    exact flatMap_congr' fun x hx => (hdec x hx).2.2
  have hrowmem : ∀ row ∈ xs.flatMap F, ∃ x ∈ xs, ∃ r, r < Rf x ∧ row = csrRow x.indptr x.indices x.data r := by
    intro row hrow
    obtain ⟨x, hx, hr⟩ := List.mem_flatMap.mp hrow
    rw [hF] at hr
    obtain ⟨r, hr', rfl⟩ := List.mem_map.mp hr
    exact ⟨x, hx, r, List.mem_range.mp hr', rfl⟩
  obtain ⟨hcsr, hrow⟩ := fromRows_csr (xs.flatMap F) C
    (by
      intro row hrow
      obtain ⟨x, hx, r, hr, rfl⟩ := hrowmem row hrow
      exact csrRow_sorted (h x hx) hr)
    (by
      intro row hrow e he
      obtain ⟨x, hx, r, hr, rfl⟩ := hrowmem row hrow
      exact csrRow_lt (h x hx) he)
  have hlens : (xs.map F).map List.length = xs.map Rf := by
    rw [List.map_map]
    exact List.map_congr_left fun x _ => hFlen x
  have hlen : (xs.flatMap F).length = (xs.map Rf).sum := by
    rw [List.flatMap_def, List.length_flatten, hlens]
  rw [← hsplice, ← hind, ← hdat, hlen] at hcsr
  refine ⟨hcsr, fun ρ hρ => ?_⟩
  obtain ⟨hk, ht, hsum⟩ := locate_spec (xs.map Rf) ρ hρ
  have hk' : (locate (xs.map Rf) ρ).1 < xs.length := by simpa using hk
  rw [getD_map Rf xs _ hk' d0] at ht
  have hget := flatten_getD ([] : List (Nat × Int)) (xs.map F) _ _
    (by simpa using hk') (by rw [getD_map _ _ _ hk' d0, hFlen]; exact ht)
  rw [hlens, hsum, getD_map _ _ _ hk' d0, hF, rowsOf_getD _ _ _ _ _ ht] at hget
  rw [hsplice, hind, hdat, hrow ρ (by rw [hlen]; exact hρ), List.getElem_eq_getD [], List.flatMap_def, hget]

end GIx

namespace GCXS

theorem view_axis (shape : List Nat) (axis : Nat) :
    csrR shape [axis] = shape.getD axis 0 ∧
    csrC shape [axis] = prod (gather shape (restAxes shape.length [axis])) ∧
    ∀ i : Idx, linOf shape [axis] i = i.getD axis 0 * prod (gather shape (restAxes shape.length [axis])) +
      ravel (gather i (restAxes shape.length [axis])) (gather shape (restAxes shape.length [axis])) := by
  obtain ⟨h1, h2, h3⟩ := view_list shape [axis]
  refine ⟨h1.trans (Nat.mul_one _), h2, fun i => ?_⟩
  rw [h3 i, show gather i [axis] = [i.getD axis 0] from rfl, show gather shape [axis] = [shape.getD axis 0] from rfl,
    ravel_append [i.getD axis 0] [shape.getD axis 0] rfl]
  show (i.getD axis 0 * 1 + 0) * _ + _ = _
  rw [Nat.add_zero, Nat.mul_one]

theorem gather_rest_set (l : List Nat) (n axis v : Nat) :
    gather (l.set axis v) (restAxes n [axis]) = gather l (restAxes n [axis]) := by
  unfold gather
  apply List.map_congr_left
  intro a ha
  unfold restAxes at ha
  have h2 := (List.mem_filter.mp ha).2
  have hne : axis ≠ a := by
    intro h; subst h; simp at h2
  exact getD_set_ne l axis a v hne

theorem gather_rest_of_off_axis (s t : List Nat) (n axis : Nat) (h : s.set axis 0 = t.set axis 0) :
    gather s (restAxes n [axis]) = gather t (restAxes n [axis]) := by
  rw [← gather_rest_set s n axis 0, ← gather_rest_set t n axis 0, h]

theorem tocoo_get_axis (g : GCXS Int) (axis : Nat) (hc : g.caxes = some [axis]) (hwf : g.WF) (i : Idx)
    (hi : InB i g.shape) :
    g.tocoo.get i = rowGet (csrRow g.indptr g.indices g.data (i.getD axis 0)) g.fill
      (ravel (gather i (restAxes g.shape.length [axis])) (gather g.shape (restAxes g.shape.length [axis]))) := by
  obtain ⟨_, hC, hlin⟩ := view_axis g.shape axis
  exact tocoo_get_at g [axis] hc hwf hi hC (hlin i) (ravel_lt (InB_gather hi
    fun a ha => List.mem_range.mp (List.mem_filter.mp ha).1))

/-- GCXS `concatenate` refines NumPy's (members with any compressed axes each, the result has
`compressed_axes = (axis,)`): the statement of `concat_get` (Props/C09) with `tocoo` -/
theorem concatG_spec (x0 : GCXS Int) (rest : List (GCXS Int)) (axis : Nat)
    (hwf : ∀ y ∈ x0 :: rest, y.WF) (hax : axis < x0.shape.length)
    (hshape : ∀ y ∈ rest, y.shape.set axis 0 = x0.shape.set axis 0)
    (hfill : ∀ y ∈ rest, y.fill = x0.fill) :
    (concatG x0 rest axis).WF ∧
    (concatG x0 rest axis).tocoo.shape = x0.shape.set axis ((x0 :: rest).map fun y => y.shape.getD axis 0).sum ∧
    (concatG x0 rest axis).tocoo.fill = x0.fill ∧
    ∀ j, InB j (x0.shape.set axis ((x0 :: rest).map fun y => y.shape.getD axis 0).sum) →
      (locate ((x0 :: rest).map fun y => y.shape.getD axis 0) (j.getD axis 0)).1 < (x0 :: rest).length ∧
      InB (j.set axis (locate ((x0 :: rest).map fun y => y.shape.getD axis 0) (j.getD axis 0)).2)
        ((x0 :: rest).getD (locate ((x0 :: rest).map fun y => y.shape.getD axis 0) (j.getD axis 0)).1 x0).shape ∧
      (concatG x0 rest axis).tocoo.get j =
        ((x0 :: rest).getD (locate ((x0 :: rest).map fun y => y.shape.getD axis 0) (j.getD axis 0)).1 x0).tocoo.get
          (j.set axis (locate ((x0 :: rest).map fun y => y.shape.getD axis 0) (j.getD axis 0)).2) := by
  have hshape' : ∀ y ∈ x0 :: rest, y.shape.set axis 0 = x0.shape.set axis 0 := List.forall_mem_cons.mpr ⟨rfl, hshape⟩
  have hfill' : ∀ y ∈ x0 :: rest, y.fill = x0.fill := List.forall_mem_cons.mpr ⟨rfl, hfill⟩
  have hne : (x0 :: rest).map (fun y => y.changeCaxes [axis]) ≠ [] := by simp
  have hrank : 1 < x0.shape.length := WF_rank (hwf x0 List.mem_cons_self)
  unfold concatG
  simp only []
  generalize x0 :: rest = ms at *
  have hlen' : ∀ y ∈ ms, y.shape.length = x0.shape.length := fun y hy => by
    simpa using congrArg List.length (hshape' y hy)
  have hmem : ∀ y ∈ ms, (y.changeCaxes [axis]).WF ∧ (y.changeCaxes [axis]).caxes = some [axis] ∧
      (y.changeCaxes [axis]).shape = y.shape ∧ (y.changeCaxes [axis]).fill = x0.fill ∧
      ∀ i, InB i y.shape → (y.changeCaxes [axis]).tocoo.get i = y.tocoo.get i := by
    intro y hy
    obtain ⟨c, hc⟩ := WF_some (hwf y hy)
    obtain ⟨w1, w2, w3, w4, w5⟩ := changeCaxes_spec y c hc (hwf y hy) [axis]
      (CaxesOk.single (by rw [hlen' y hy]; exact hrank) (by rw [hlen' y hy]; exact hax))
    exact ⟨w1, w2, w3, by rw [w4, hfill' y hy], w5⟩
  have hC : ∀ y ∈ ms, gather y.shape (restAxes y.shape.length [axis]) = gather x0.shape (restAxes x0.shape.length [axis]) :=
    fun y hy => by rw [hlen' y hy, gather_rest_of_off_axis _ _ _ _ (hshape' y hy)]
  have hxs : ∀ x ∈ ms.map (fun y => y.changeCaxes [axis]),
      CsrWF (x.shape.getD axis 0) (prod (gather x0.shape (restAxes x0.shape.length [axis]))) x.indptr x.indices x.data.length := by
    intro x hx
    obtain ⟨y, hy, rfl⟩ := List.mem_map.mp hx
    obtain ⟨w1, w2, w3, _, _⟩ := hmem y hy
    have := ((WF_iff w2).mp w1).2
    rw [w3, (view_axis y.shape axis).1, (view_axis y.shape axis).2.1, hC y hy] at this
    rwa [w3]
  obtain ⟨hcsr, hrow⟩ := joinRows_csr (ms.map fun y => y.changeCaxes [axis]) (x0.changeCaxes [axis]) hne
    (fun x => x.shape.getD axis 0) _ hxs
  have hexts : ((ms.map fun y => y.changeCaxes [axis]).map fun x => x.shape.getD axis 0) = ms.map fun y => y.shape.getD axis 0 := by
    rw [List.map_map]
    exact List.map_congr_left fun y hy => by simp only [Function.comp, (hmem y hy).2.2.1]
  rw [hexts] at hcsr hrow
  generalize htot : (ms.map fun y => y.shape.getD axis 0).sum = total at *
  obtain ⟨vR, vC, _⟩ := view_axis (x0.shape.set axis total) axis
  rw [getD_set_eq _ _ _ hax] at vR
  rw [List.length_set, gather_rest_set] at vC
  have hwfR : (joinRows (ms.map fun y => y.changeCaxes [axis]) (x0.shape.set axis total) axis x0.fill).WF :=
    (WF_iff rfl).mpr ⟨CaxesOk.single (by rw [joinRows, List.length_set]; exact hrank)
        (by rw [joinRows, List.length_set]; exact hax),
      by show CsrWF (csrR (x0.shape.set axis total) [axis]) (csrC (x0.shape.set axis total) [axis]) _ _ _
         rw [vR, vC]; exact hcsr⟩
  obtain ⟨t1, t2, _⟩ := tocoo_get _ [axis] rfl hwfR
  refine ⟨hwfR, t1, t2, fun j hj => ?_⟩
  have hjl : j.length = x0.shape.length := by rw [InB_length hj, List.length_set]
  have hjax : j.getD axis 0 < total := by
    have := (InB_iff_getD.mp hj).2 axis (by rw [hjl]; exact hax)
    rwa [getD_set_eq _ _ _ hax] at this
  obtain ⟨hk, ht, _⟩ := locate_spec (ms.map fun y => y.shape.getD axis 0) (j.getD axis 0) (by rw [htot]; exact hjax)
  have hrow' := hrow _ hjax
  generalize (locate (ms.map fun y => y.shape.getD axis 0) (j.getD axis 0)).1 = k at *
  generalize (locate (ms.map fun y => y.shape.getD axis 0) (j.getD axis 0)).2 = t at *
  have hk' : k < ms.length := by simpa using hk
  rw [getD_map _ ms k hk' x0] at ht
  have hy := getD_mem ms k x0 hk'
  rw [getD_map _ ms k hk' x0] at hrow'
  generalize ms.getD k x0 = y at *
  have hsrc : InB (j.set axis t) y.shape := by
    rw [InB_iff_getD] at hj ⊢
    refine ⟨by rw [List.length_set, hjl, hlen' y hy], fun a ha => ?_⟩
    rw [List.length_set] at ha
    by_cases haa : a = axis
    · subst haa
      rw [getD_set_eq _ _ _ ha]; exact ht
    · have h1 := hj.2 a ha
      have h2 := congrArg (fun l => l.getD a 0) (hshape' y hy)
      simp only [getD_set_ne _ _ _ _ (Ne.symm haa)] at h1 h2 ⊢
      rw [h2]; exact h1
  refine ⟨hk', hsrc, ?_⟩
  obtain ⟨w1, w2, w3, w4, w5⟩ := hmem y hy
  rw [tocoo_get_axis _ axis rfl hwfR j hj, ← w5 _ hsrc, tocoo_get_axis _ axis w2 w1 _ (by rw [w3]; exact hsrc), w3, w4]
  simp only [joinRows]
  rw [hrow', List.length_set, gather_rest_set, getD_set_eq _ _ _ (by rw [hjl]; exact hax), hlen' y hy,
    gather_rest_set, gather_rest_of_off_axis _ _ _ _ (hshape' y hy)]

theorem length_insertAt (s : List Nat) (a v : Nat) : (insertAt s a v).length = s.length + 1 := by
  rw [insertAt, List.length_append, List.length_cons, List.length_take, List.length_drop]
  omega

theorem prod_insertAt_one : ∀ (a : Nat) (s : List Nat), prod (insertAt s a 1) = prod s
  | 0, s => by simp [prod]
  | a + 1, [] => by simp [insertAt, prod]
  | a + 1, d :: s => by rw [insertAt_cons_succ, prod, prod, prod_insertAt_one a s]

theorem ravel_insertAt_zero : ∀ (a : Nat) (i s : List Nat), i.length = s.length → a ≤ s.length →
    ravel (insertAt i a 0) (insertAt s a 1) = ravel i s
  | 0, i, s, _, _ => by simp [ravel]
  | a + 1, x :: i, d :: s, hl, ha => by
    rw [insertAt_cons_succ, insertAt_cons_succ, ravel, ravel, prod_insertAt_one,
      ravel_insertAt_zero a i s (Nat.succ.inj hl) (Nat.le_of_succ_le_succ ha)]
  | a + 1, [], _ :: _, hl, _ => by simp at hl

theorem locate_ones : ∀ (m p : Nat), p < m → locate (List.replicate m 1) p = (p, 0)
  | m + 1, 0, _ => by rw [List.replicate_succ, locate, if_pos Nat.zero_lt_one]
  | m + 1, p + 1, h => by
    rw [List.replicate_succ, locate, if_neg (Nat.not_lt.mpr (Nat.le_add_left 1 p)), Nat.add_sub_cancel,
      locate_ones m p (Nat.lt_of_succ_lt_succ h)]

theorem set_insertAt (i : Idx) (a k v : Nat) (h : a ≤ i.length) : (insertAt i a k).set a v = insertAt i a v := by
  unfold insertAt
  rw [List.set_append_right _ _ (by simp; omega)]
  simp [Nat.min_eq_left h]

end GCXS
end SparseV
