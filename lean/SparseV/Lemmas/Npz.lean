/-
  SparseV.Lemmas.Npz — lemmas for property C14.
-/
import SparseV.Model.Npz
import SparseV.Lemmas.Gen.Ctor
namespace SparseV.Npz
variable {α : Type}

theorem fixCoords_wf (s : List Int) (c : Mat) (hc : c.WF) (hn : c.nrows = s.length) :
    fixCoords s c = c := by
  unfold fixCoords
  by_cases h : s ≠ [] ∧ c.nrows * c.ncols = 0
  · -- a well-formed matrix with a row and no entry is `np.zeros((n, 0))` already
    rw [if_pos h]
    obtain ⟨nr, nc, rows⟩ := c
    obtain ⟨hl, hr⟩ := hc
    dsimp only at hn hl hr h
    have hpos := List.length_pos_iff.mpr h.1
    have h0 : nc = 0 := by
      rcases Nat.mul_eq_zero.mp h.2 with h1 | h1 <;> omega
    subst h0 hn
    rw [Mat.empty, List.eq_replicate_iff.mpr ⟨hl, fun r hr' => List.length_eq_zero_iff.mp (hr r hr')⟩]
  · rw [if_neg h]

theorem mat_empty_wf (n : Nat) : (Mat.empty n).WF := by
  simp [Mat.WF, Mat.empty]

theorem fixCoords_preserves_wf (s : List Int) (c : Mat) (hc : c.WF) : (fixCoords s c).WF := by
  unfold fixCoords
  split
  · exact mat_empty_wf _
  · exact hc

theorem le_listMin_iff (c : Int) : ∀ (i : List Int), i ≠ [] → (c ≤ listMin i ↔ ∀ x ∈ i, c ≤ x)
  | [], h => absurd rfl h
  | [a], _ => by simp [listMin]
  | a :: b :: rest, _ => by
    have ih := le_listMin_iff c (b :: rest) (by simp)
    rw [listMin, Int.le_min, ih]
    · simp
    · simp

theorem listMax_lt_iff (c : Int) : ∀ (i : List Int), i ≠ [] → (listMax i < c ↔ ∀ x ∈ i, x < c)
  | [], h => absurd rfl h
  | [a], _ => by simp [listMax]
  | a :: b :: rest, _ => by
    have ih := listMax_lt_iff c (b :: rest) (by simp)
    rw [listMax, Int.max_lt, ih]
    · simp
    · simp

theorem minmax_inRange (i : List Int) (n : Int) :
    ((i.length : Int) ≠ 0 → 0 ≤ listMin i ∧ listMax i < n) ↔ InRange i n := by
  unfold InRange
  cases i with
  | nil => simp
  | cons a as =>
    have hne : (a :: as) ≠ [] := by simp
    have hl : ((a :: as).length : Int) ≠ 0 := by simp; omega
    rw [le_listMin_iff 0 _ hne, listMax_lt_iff n _ hne, imp_iff_right hl]
    exact ⟨fun h x hx => ⟨h.1 x hx, h.2 x hx⟩, fun h => ⟨fun x hx => (h x hx).1, fun x hx => (h x hx).2⟩⟩

/-- `np.any(indptr[1:] < indptr[:-1])` is false iff the list is sorted (non-decreasing) -/
theorem ptrDecreases_false_iff : ∀ (p : List Int), ptrDecreases p = false ↔ p.Pairwise (· ≤ ·)
  | [] => by simp [ptrDecreases]
  | [a] => by simp [ptrDecreases]
  | a :: b :: rest => by
    have ih := ptrDecreases_false_iff (b :: rest)
    rw [ptrDecreases, Bool.or_eq_false_iff, ih, List.pairwise_cons (l := b :: rest)]
    constructor
    · rintro ⟨hab, hp⟩
      have hab' : a ≤ b := by simpa using hab
      refine ⟨fun x hx => ?_, hp⟩
      rcases List.mem_cons.mp hx with rfl | hx
      · exact hab'
      · exact Int.le_trans hab' ((List.pairwise_cons.mp hp).1 x hx)
    · rintro ⟨hall, hp⟩
      exact ⟨by simpa using hall b (by simp), hp⟩

theorem guard_ok_iff {β : Type} {c : Prop} [Decidable c] {e : Err} {m : Except Err β} {y : β} :
    (if c then .error e else m) = .ok y ↔ ¬ c ∧ m = .ok y := by
  by_cases h : c
  · rw [if_pos h]
    exact ⟨nofun, fun hh => absurd h hh.1⟩
  · rw [if_neg h]
    exact ⟨fun hm => ⟨h, hm⟩, And.right⟩

theorem cooCtor_ok_iff (c : Mat) (d : List α) (s : List Int) (f : α) (y : Arr α) :
    cooCtor c d s f = .ok y ↔
      (∀ e ∈ s, 0 ≤ e) ∧ d.length = (fixCoords s c).ncols ∧ s.length = (fixCoords s c).nrows
        ∧ y = .coo s (fixCoords s c) d f := by
  unfold cooCtor
  dsimp only
  rw [guard_ok_iff, Classical.not_not, all_shapeEltOk_iff]
  cases hc : Gen.cooCtorChecks 2 d.length (fixCoords s c).ncols s.length (fixCoords s c).nrows with
  | error e =>
    have hn := mt (cooCtorChecks_ok_iff _ _ _ _).mpr (by rw [hc]; nofun)
    exact ⟨fun h => (nomatch h.2), fun ⟨_, h1, h2, _⟩ => (hn ⟨by exact_mod_cast h1, by exact_mod_cast h2⟩).elim⟩
  | ok u =>
    obtain ⟨h1, h2⟩ := (cooCtorChecks_ok_iff _ _ _ _).mp hc
    exact ⟨fun ⟨hs, h⟩ => ⟨hs, by exact_mod_cast h1, by exact_mod_cast h2, (Except.ok.inj h).symm⟩,
      fun ⟨hs, _, _, h⟩ => ⟨hs, by rw [h]⟩⟩

theorem cooCtor_wf (axesOk : List Int → Bool) (s : List Int) (c : Mat) (d : List α) (f : α)
    (hwf : (Arr.coo s c d f).WF axesOk) : cooCtor c d s f = .ok (Arr.coo s c d f) := by
  obtain ⟨hnn, hc, hn, hd⟩ := hwf
  rw [cooCtor_ok_iff, fixCoords_wf s c hc hn]
  exact ⟨hnn, hd, hn.symm, rfl⟩

theorem rowsOf_nonneg (s : List Int) (hs : ∀ e ∈ s, 0 ≤ e) : ∀ l : List Int, 0 ≤ rowsOf s l
  | [] => by simp [rowsOf]
  | a :: as => by
    unfold rowsOf
    apply Int.mul_nonneg _ (rowsOf_nonneg s hs as)
    rw [List.getD_eq_getElem?_getD]
    cases h : s[a.toNat]? with
    | none => simp
    | some v => exact hs v (List.mem_of_getElem? h)

theorem ends_iff {p : List Int} (hp : p ≠ []) (a b : Int) :
    (p.headD 0 = a ∧ p.getLastD 0 = b) ↔ (p.head? = some a ∧ p.getLast? = some b) := by
  obtain ⟨x, xs, rfl⟩ := List.exists_cons_of_ne_nil hp
  simp [List.getLastD_eq_getLast?, List.getLast?_cons]

theorem gcxsChecks_ok_iff (d : List α) (i p : List Int) (ca : Option (List Int)) (s : List Int) :
    gcxsChecks d i p ca s = .ok () ↔ (∀ e ∈ s, 0 ≤ e) ∧ GcxsStruct s d i p ca := by
  have hlen : s ≠ [] ↔ 1 ≤ (s.length : Int) := by
    cases s <;> simp <;> omega
  have h1len : s.length = 1 ↔ (s.length : Int) = 1 := by omega
  have h2len : 2 ≤ s.length ↔ 2 ≤ (s.length : Int) := by omega
  unfold gcxsChecks GcxsStruct
  dsimp only
  cases ca with
  | some l =>
    rw [gcxsCtorChecks_ok_iff, all_gcxsShapeEltOk_iff, hlen, h1len, h2len, minmax_inRange, minmax_inRange,
      ptrDecreases_false_iff]
    -- `indptr` has `rows + 1 ≥ 1` entries when its ends are looked at
    have hp (h1 : ∀ e ∈ s, 0 ≤ e) (a : (p.length : Int) = rowsOf s l + 1) : p ≠ [] := by
      rintro rfl
      have := rowsOf_nonneg s h1 l
      simp at a
      omega
    constructor
    · rintro ⟨h1, h2, h3, h4⟩
      refine ⟨h1, fun h => by exact_mod_cast h2 h, h4, fun h => ?_⟩
      obtain ⟨a, b, c, hd, he⟩ := h3 h
      obtain ⟨b', c'⟩ := (ends_iff (hp h1 a) _ _).mp ⟨b, c⟩
      exact ⟨l, rfl, a, b', c', hd, he⟩
    · rintro ⟨h1, h2, h4, h3⟩
      refine ⟨h1, fun h => by exact_mod_cast h2 h, fun h => ?_, h4⟩
      obtain ⟨l', hl, a, b, c, hd, he⟩ := h3 h
      cases hl
      obtain ⟨b', c'⟩ := (ends_iff (hp h1 a) _ _).mpr ⟨b, c⟩
      exact ⟨a, b', c', hd, he⟩
  | none =>
    by_cases h2d : 2 ≤ s.length
    · rw [if_pos h2d]
      constructor
      · intro h
        rcases gcxsCtorChecksHead_cases 1 (s.all Gen.gcxsShapeEltOk) s.length d.length i.length with hc | hc <;>
          rw [hc] at h <;> cases h
      · rintro ⟨_, _, _, h3⟩
        obtain ⟨l, hl, _⟩ := h3 h2d
        cases hl
    · rw [if_neg h2d, gcxsCtorChecks_ok_iff, all_gcxsShapeEltOk_iff, hlen, h1len, minmax_inRange i (s.headD 0)]
      constructor
      · rintro ⟨h1, h2, _, h4⟩
        exact ⟨h1, fun h => by exact_mod_cast h2 h, h4, fun h => absurd h h2d⟩
      · rintro ⟨h1, h2, h4, _⟩
        exact ⟨h1, fun h => by exact_mod_cast h2 h, fun h => absurd (h2len.mpr h) h2d, h4⟩

theorem gcxsChecks_err (d : List α) (i p : List Int) (ca : Option (List Int)) (s : List Int) (e : Err)
    (h : gcxsChecks d i p ca s = .error e) : e = .value ∨ (e = .type ∧ ca = none ∧ 2 ≤ s.length) := by
  have value {m : Except Err Unit} (hm : m = .ok () ∨ m = .error .value) {e : Err} (h : m = .error e) : e = .value := by
    rcases hm with hm | hm
    · exact nomatch hm.symm.trans h
    · exact (Except.error.inj (hm.symm.trans h)).symm
  unfold gcxsChecks at h
  dsimp only at h
  cases ca with
  | some l => exact Or.inl (value (gcxsCtorChecks_cases ..) h)
  | none =>
    dsimp only at h
    by_cases h2 : 2 ≤ s.length
    · rw [if_pos h2] at h
      rcases gcxsCtorChecksHead_cases 1 (s.all Gen.gcxsShapeEltOk) s.length d.length i.length with hc | hc
      · rw [hc] at h
        exact Or.inr ⟨(Except.error.inj h).symm, rfl, h2⟩
      · rw [hc] at h
        exact Or.inl (Except.error.inj h).symm
    · rw [if_neg h2] at h
      exact Or.inl (value (gcxsCtorChecks_cases ..) h)

theorem checkAxes_ok_iff (axesOk : List Int → Bool) (n : Nat) (ca : Option (List Int)) :
    checkAxes axesOk n ca = .ok () ↔
      match ca with
      | none => True
      | some l => l ≠ [] ∧ l.length ≠ n ∧ axesOk l = true ∧ ∀ a ∈ l, 0 ≤ a ∧ a < (n : Int) := by
  cases ca with
  | none => exact ⟨fun _ => trivial, fun _ => rfl⟩
  | some l =>
    unfold checkAxes
    rw [guard_ok_iff, guard_ok_iff, guard_ok_iff, guard_ok_iff, Classical.not_not, Classical.not_not, List.all_eq_true]
    exact ⟨fun ⟨h1, h2, h3, h4, _⟩ => ⟨h3, h1, h2, fun a ha => of_decide_eq_true (h4 a ha)⟩,
      fun ⟨h3, h1, h2, h4⟩ => ⟨h1, h2, h3, fun a ha => decide_eq_true (h4 a ha), rfl⟩⟩

theorem gcxsCtor_ok_iff (axesOk : List Int → Bool) (d : List α) (i p : List Int) (ca : Option (List Int))
    (s : List Int) (f : α) (y : Arr α) :
    gcxsCtor axesOk d i p ca s f = .ok y ↔
      checkAxes axesOk s.length ca = .ok () ∧ (∀ e ∈ s, 0 ≤ e) ∧ GcxsStruct s d i p (normAxes s ca)
        ∧ y = .gcxs true s d i p (normAxes s ca) f := by
  unfold gcxsCtor
  cases h1 : checkAxes axesOk s.length ca with
  | error e => exact ⟨nofun, fun h => nomatch h.1⟩
  | ok u =>
    cases h2 : gcxsChecks d i p (normAxes s ca) s with
    | error e =>
      have hn := mt (gcxsChecks_ok_iff d i p (normAxes s ca) s).mpr (by rw [h2]; nofun)
      exact ⟨nofun, fun h => (hn ⟨h.2.1, h.2.2.1⟩).elim⟩
    | ok u' =>
      obtain ⟨a, b⟩ := (gcxsChecks_ok_iff d i p (normAxes s ca) s).mp h2
      exact ⟨fun h => ⟨rfl, a, b, (Except.ok.inj h).symm⟩, fun h => by rw [h.2.2.2]⟩

namespace GcxsStruct
variable {s : List Int} {d : List α} {i p l : List Int} {ca : Option (List Int)}

theorem data_len (h : GcxsStruct s d i p ca) (hs : s ≠ []) : d.length = i.length := h.1 hs

theorem rows (h : GcxsStruct s d i p (some l)) (h2 : 2 ≤ s.length) :
    (p.length : Int) = rowsOf s l + 1 ∧ p.head? = some 0 ∧ p.getLast? = some (i.length : Int) ∧ p.Pairwise (· ≤ ·)
      ∧ InRange i (colsOf s l) := by
  obtain ⟨_, hl, hr⟩ := h.2.2 h2
  cases hl
  exact hr

theorem indptr_len (h : GcxsStruct s d i p (some l)) (h2 : 2 ≤ s.length) : (p.length : Int) = rowsOf s l + 1 := (h.rows h2).1

theorem mono (h : GcxsStruct s d i p (some l)) (h2 : 2 ≤ s.length) : p.Pairwise (· ≤ ·) := (h.rows h2).2.2.2.1

theorem in_range (h : GcxsStruct s d i p (some l)) (h2 : 2 ≤ s.length) : InRange i (colsOf s l) := (h.rows h2).2.2.2.2

end GcxsStruct

namespace Arr.WF
variable {axesOk : List Int → Bool} {e : Bool} {s : List Int} {d : List α} {i p l : List Int} {f : α}

theorem struct {ca : Option (List Int)} (h : (Arr.gcxs e s d i p ca f).WF axesOk) : GcxsStruct s d i p ca := h.2.1

variable (h : (Arr.gcxs e s d i p (some l) f).WF axesOk)
include h

theorem axes_ne_nil : l ≠ [] := h.2.2.1

theorem not_one_dim : s.length ≠ 1 := h.2.2.2.2.1

theorem two_dims : 2 ≤ s.length := by
  have hl4 := h.2.2.2.2.2.2
  cases l with
  | nil => exact absurd rfl h.axes_ne_nil
  | cons a t =>
    have := hl4 a List.mem_cons_self
    have := h.not_one_dim
    omega

theorem decodeAxes_eq : decodeAxes l = some l := if_neg fun hh => h.axes_ne_nil hh.2

theorem normAxes_eq : normAxes s (some l) = some l := if_neg h.not_one_dim

end Arr.WF

theorem gcxsCtor_wf (axesOk : List Int → Bool) (e : Bool) (s : List Int) (d : List α) (i p : List Int)
    (ca : Option (List Int)) (f : α) (hwf : (Arr.gcxs e s d i p ca f).WF axesOk) :
    gcxsCtor axesOk d i p ca s f = .ok (Arr.gcxs true s d i p ca f) := by
  have hnorm : normAxes s ca = ca := by
    cases ca with
    | none => exact ite_self none
    | some l => exact hwf.normAxes_eq
  rw [gcxsCtor_ok_iff, hnorm]
  refine ⟨?_, hwf.1, hwf.struct, rfl⟩
  cases ca with
  | none => rfl
  | some l =>
    obtain ⟨_, _, h0, hlen, _, hok, hrange⟩ := hwf
    exact (checkAxes_ok_iff axesOk s.length (some l)).mpr ⟨h0, hlen, hok, hrange⟩

theorem fetchAll_ok_lookup {m : Members α} : ∀ {req : List String} {f : Members α},
    fetchAll m req = .ok f →
    (∀ k ∈ req, ∃ p, lookup m k = some p ∧ p ≠ .object) ∧ (∀ k p, lookup f k = some p → lookup m k = some p)
  | [], f, h => by
    cases h
    simp [lookup]
  | k :: ks, f, h => by
    unfold fetchAll at h
    split at h
    · cases h
    · cases h
    · rename_i p hno hp
      split at h
      · rename_i r hr
        cases h
        obtain ⟨ih1, ih2⟩ := fetchAll_ok_lookup hr
        refine ⟨List.forall_mem_cons.mpr ⟨⟨p, hp, hno⟩, ih1⟩, fun k' p' hl => ?_⟩
        unfold lookup at hl
        split at hl
        · rename_i heq
          subst heq
          cases hl
          exact hp
        · exact ih2 k' p' hl
      · cases h

theorem fetchAll_congr {m m' : Members α} : ∀ (req : List String), (∀ k ∈ req, lookup m k = lookup m' k) →
    fetchAll m req = fetchAll m' req
  | [], _ => rfl
  | k :: ks, hk => by
    unfold fetchAll
    rw [hk k (by simp), fetchAll_congr ks (fun k' hk' => hk k' (by simp [hk']))]

theorem fetchAll_sub {m m' : Members α} {req : List String} {f : Members α}
    (hsub : ∀ k ∈ req, lookup m' k = none ∨ lookup m' k = lookup m k) (h : fetchAll m' req = .ok f) : fetchAll m req = .ok f := by
  rw [fetchAll_congr req fun k hk => ?_]
  · exact h
  · obtain ⟨p, hp, _⟩ := (fetchAll_ok_lookup h).1 k hk
    exact ((hsub k hk).resolve_left (by rw [hp]; nofun)).symm

theorem forall_mem_flatMap_cons {P : String → Prop} {b : String × List String} {rest : List (String × List String)}
    (h : ∀ k ∈ (b :: rest).flatMap (·.2), P k) : (∀ k ∈ b.2, P k) ∧ ∀ k ∈ rest.flatMap (·.2), P k := by
  simp only [List.flatMap_cons, List.mem_append] at h
  exact ⟨fun k hk => h k (.inl hk), fun k hk => h k (.inr hk)⟩

theorem loadFrom_ok_branch {axesOk : List Int → Bool} {m : Members α} {y : Arr α} :
    ∀ {brs : List (String × List String)}, loadFrom axesOk m brs = .ok y →
    ∃ b ∈ brs, ∃ f, fetchAll m b.2 = .ok f ∧ construct axesOk b.1 f = .ok y
  | [], h => nomatch h
  | (cls, req) :: rest, h => by
    unfold loadFrom at h
    split at h
    · rename_i f hf
      exact ⟨(cls, req), by simp, f, hf, h⟩
    · obtain ⟨b, hb, f, hf, hc⟩ := loadFrom_ok_branch h
      exact ⟨b, by simp [hb], f, hf, hc⟩
    · cases h

theorem construct_ok {axesOk : List Int → Bool} {cls : String} {f : Members α} {y : Arr α}
    (h : construct axesOk cls f = .ok y) :
    (cls = "COO" ∧ ∃ c d s v, lookup f "coords" = some (.mat c) ∧ lookup f "data" = some (.vals d)
        ∧ lookup f "shape" = some (.ints s) ∧ lookup f "fill_value" = some (.val v) ∧ cooCtor c d s v = .ok y)
    ∨ (cls = "GCXS" ∧ ∃ d i p ca s v, lookup f "data" = some (.vals d) ∧ lookup f "indices" = some (.ints i)
        ∧ lookup f "indptr" = some (.ints p) ∧ lookup f "compressed_axes" = some (.ints ca)
        ∧ lookup f "shape" = some (.ints s) ∧ lookup f "fill_value" = some (.val v)
        ∧ gcxsCtor axesOk d i p (decodeAxes ca) s v = .ok y) := by
  unfold construct at h
  split at h
  · rename_i hcls
    split at h
    · rename_i c d s v h1 h2 h3 h4
      exact Or.inl ⟨hcls, c, d, s, v, h1, h2, h3, h4, h⟩
    · cases h
  · split at h
    · rename_i hcls
      split at h
      · rename_i d i p ca s v h1 h2 h3 h4 h5 h6
        exact Or.inr ⟨hcls, d, i, p, ca, s, v, h1, h2, h3, h4, h5, h6, h⟩
      · cases h
    · cases h

theorem loadFrom_sub {axesOk : List Int → Bool} {m m' : Members α} {y : Arr α} :
    ∀ {brs : List (String × List String)}, Decisive m brs →
    (∀ k ∈ brs.flatMap (·.2), lookup m' k = none ∨ lookup m' k = lookup m k) →
    loadFrom axesOk m' brs = .ok y → loadFrom axesOk m brs = .ok y
  | [], _, _, h => nomatch h
  | (cls, req) :: rest, hdec, hsub, h => by
    obtain ⟨hd1, hd2⟩ := hdec
    obtain ⟨hsub1, hsub2⟩ := forall_mem_flatMap_cons hsub
    unfold loadFrom at h
    split at h
    · rename_i f hf
      unfold loadFrom
      simp only [fetchAll_sub hsub1 hf]
      exact h
    · have ih := loadFrom_sub hd2 hsub2 h
      obtain ⟨b, hb, f, hf, _⟩ := loadFrom_ok_branch h
      have hpres : ∀ k ∈ b.2, lookup m k ≠ none := by
        intro k hk
        obtain ⟨p, hp, _⟩ := (fetchAll_ok_lookup hf).1 k hk
        rw [← (hsub2 k (List.mem_flatMap.mpr ⟨b, hb, hk⟩)).resolve_left (by rw [hp]; nofun), hp]
        nofun
      have hkey := hd1 ⟨b, hb, hpres⟩
      unfold loadFrom
      simp only [hkey]
      exact ih
    · cases h

theorem wrap_of_fits (t : IntTy) (v : Int) (h : t.fits v) : t.wrap v = v := by
  unfold IntTy.fits at h
  unfold IntTy.wrap
  split
  · rename_i hs
    simp only [hs, if_true] at h
    have : (v + t.half) % (2 * t.half) = v + t.half := Int.emod_eq_of_lt (by omega) (by omega)
    omega
  · rename_i hs
    simp only [hs] at h
    exact Int.emod_eq_of_lt h.1 h.2

theorem nativeShape_of_fits (t : IntTy) (s : List Int) (h : ∀ e ∈ s, t.fits e) : nativeShape t s = s := by
  unfold nativeShape
  split
  · exact (List.map_congr_left fun e he => wrap_of_fits t e (h e he)).trans (List.map_id s)
  · rfl

/-- compiled code sees the array's own fields, the shape as the native tuple holds it -/
theorem boxUnbox_eq (ctor : Mat → List α → List Int → α → Except Err (CooObj α)) (t : IntTy) (x : CooObj α) :
    boxUnbox ctor t x = ctor x.coords x.data (nativeShape t x.shape) x.fill := by
  simp [boxUnbox, unbox, Gen.cooStruct, unboxAll, unboxField, unboxField.lookupS, Gen.cooUnbox, CooObj.attr,
    box, bindArgs, cooInitParams, Gen.cooBoxArgs, bindKwargs, Gen.cooBoxKwargs, lookup]

/-! ### facts about the generated tables

The tables contribute only closed, decidable facts (`WritesExactly …`, by `decide` over the whole generated table),
never the order of their entries.  From those, what `save_npz` writes is known through `lookup`: it agrees with
`membersOf` on every name `load_npz` can ask for, and `load`, `Decisive` are transported along that agreement
(`loadFrom_congr`, `decisive_congr`). -/

def attrOf : List (String × String) → String → Option String
  | [], _ => none
  | (k, a) :: rest, q => if k = q then some a else attrOf rest q

theorem collect_lookup (x : Arr α) : ∀ {ps : List (String × String)} {m : Members α}, collect x ps = .ok m →
    ∀ q, lookup m q = (attrOf ps q).bind x.attr
  | [], m, h, q => by
    cases h
    simp [lookup, attrOf]
  | (k, a) :: rest, m, h, q => by
    unfold collect at h
    split at h
    · cases h
    · rename_i p hp
      split at h
      · rename_i m' hm'
        cases h
        have ih := collect_lookup x hm' q
        unfold lookup attrOf
        by_cases hkq : k = q
        · simp [hkq, hp]
        · simp [hkq, ih]
      · cases h

theorem collect_ok (x : Arr α) : ∀ {ps : List (String × String)}, (∀ p ∈ ps, (x.attr p.2).isSome = true) →
    ∃ m, collect x ps = .ok m
  | [], _ => ⟨[], rfl⟩
  | (k, a) :: rest, h => by
    obtain ⟨m', hm'⟩ := collect_ok x (ps := rest) (fun p hp => h p (by simp [hp]))
    have ha := h (k, a) (by simp)
    cases hp : x.attr a with
    | none => simp [hp] at ha
    | some p => exact ⟨(k, p) :: m', by simp [collect, hp, hm']⟩

/-- the write list of `save_npz` depends on the matrix through its class and exactness only -/
def writeListOf (cls : String) (exact : Bool) : List (String × String) :=
  Gen.npzCommon ++ (match Gen.npzWrite.find? (fun b => b.1 == cls && (exact || !b.2.1)) with
    | some b => b.2.2
    | none => [])

theorem writeList_eq (x : Arr α) : writeList x = writeListOf x.clsName x.exact := rfl

/-- the seven member names of the format -/
def allKeys : List String := ["coords", "data", "shape", "fill_value", "indices", "indptr", "compressed_axes"]
def commonKeys : List String := ["data", "shape", "fill_value"]
def cooKeys : List String := ["coords", "data", "shape", "fill_value"]
def gcxsKeys : List String := ["data", "shape", "fill_value", "indices", "indptr", "compressed_axes"]

/-- among the seven names the write list `ps` writes exactly `present`, each from the attribute of its own name, and
every attribute it reads (for whatever member) is one of `attrs` -/
def WritesExactly (ps : List (String × String)) (present attrs : List String) : Bool :=
  allKeys.all (fun k => attrOf ps k == (if present.contains k then some k else none)) && ps.all (fun p => attrs.contains p.2)

theorem vocabulary_sub : ∀ k ∈ vocabulary, k ∈ allKeys := by decide +kernel

/-- decided over the whole generated `npzCommon` / `npzWrite`: what is written for a COO, for an exact GCXS, for an
instance of a GCXS subclass when the dispatch accepts it, and when it does not -/
theorem table_coo : WritesExactly (writeListOf "COO" true) cooKeys cooKeys = true := by decide +kernel
theorem table_gcxs : WritesExactly (writeListOf "GCXS" true) gcxsKeys gcxsKeys = true := by decide +kernel
theorem table_gcxs_sub : gcxsExactTest = false → WritesExactly (writeListOf "GCXS" false) gcxsKeys gcxsKeys = true := by decide +kernel
theorem table_gcxs_sub_unrecognised : gcxsExactTest = true → WritesExactly (writeListOf "GCXS" false) commonKeys gcxsKeys = true := by
  decide +kernel

theorem writesExactly_lookup {ps : List (String × String)} {present attrs : List String}
    (h : WritesExactly ps present attrs = true) :
    (∀ k ∈ allKeys, attrOf ps k = if present.contains k then some k else none) ∧ (∀ p ∈ ps, p.2 ∈ attrs) := by
  unfold WritesExactly at h
  rw [Bool.and_eq_true, List.all_eq_true, List.all_eq_true] at h
  refine ⟨fun k hk => ?_, fun p hp => ?_⟩
  · simpa using h.1 k hk
  · simpa using h.2 p hp

def membersOf (x : Arr α) : List String → Members α
  | [] => []
  | k :: ks =>
    match x.attr k with
    | some p => (k, p) :: membersOf x ks
    | none => membersOf x ks

theorem lookup_membersOf (x : Arr α) : ∀ (present : List String) (q : String),
    lookup (membersOf x present) q = if present.contains q then x.attr q else none
  | [], _ => rfl
  | k :: ks, q => by
    have ih := lookup_membersOf x ks q
    rw [List.contains_cons]
    unfold membersOf
    by_cases hkq : k = q
    · subst hkq
      rw [beq_self_eq_true, Bool.true_or, if_pos rfl]
      cases hk : x.attr k with
      | some p => exact if_pos rfl
      | none =>
        rw [ih, hk]
        exact ite_self none
    · have hqk : (q == k) = false := beq_false_of_ne fun h => hkq h.symm
      rw [hqk, Bool.false_or, ← ih]
      cases x.attr k with
      | some p => exact if_neg hkq
      | none => rfl

theorem coo_attr_isSome (s : List Int) (c : Mat) (d : List α) (f : α) :
    ∀ a ∈ cooKeys, ((Arr.coo s c d f).attr a).isSome = true := by
  intro a ha
  simp only [cooKeys, List.mem_cons, List.not_mem_nil, or_false] at ha
  rcases ha with rfl | rfl | rfl | rfl <;> simp [Arr.attr]

theorem gcxs_attr_isSome (e : Bool) (s : List Int) (d : List α) (i p : List Int) (ca : Option (List Int)) (f : α) :
    ∀ a ∈ gcxsKeys, ((Arr.gcxs e s d i p ca f).attr a).isSome = true := by
  intro a ha
  simp only [gcxsKeys, List.mem_cons, List.not_mem_nil, or_false] at ha
  rcases ha with rfl | rfl | rfl | rfl | rfl | rfl <;> simp [Arr.attr]

theorem save_lookup (x : Arr α) {present attrs : List String}
    (ht : WritesExactly (writeListOf x.clsName x.exact) present attrs = true) {m : Members α} (hs : save x = .ok m) :
    ∀ k ∈ allKeys, lookup m k = lookup (membersOf x present) k := by
  intro k hk
  rw [collect_lookup _ hs k, writeList_eq, (writesExactly_lookup ht).1 k hk, lookup_membersOf]
  cases present.contains k <;> rfl

theorem table_gcxs_recognised {e : Bool} (h : e = true ∨ gcxsExactTest = false) :
    WritesExactly (writeListOf "GCXS" e) gcxsKeys gcxsKeys = true := by
  cases e with
  | true => exact table_gcxs
  | false => exact table_gcxs_sub (h.resolve_left nofun)

theorem recognised_of_not_excluded {e : Bool} {s : List Int} {d : List α} {i p : List Int} {ca : Option (List Int)} {f : α}
    (hex : ¬ Excluded (Arr.gcxs e s d i p ca f)) : e = true ∨ gcxsExactTest = false := by
  cases e with
  | true => exact Or.inl rfl
  | false => exact Or.inr (Bool.eq_false_iff.mpr fun hg => hex (Or.inl ⟨rfl, hg⟩))

theorem save_gcxs_members (e : Bool) (s : List Int) (d : List α) (i p : List Int) (ca : Option (List Int)) (f : α)
    (h : e = true ∨ gcxsExactTest = false) {m : Members α} (hs : save (Arr.gcxs e s d i p ca f) = .ok m) :
    lookup m "coords" = none ∧ lookup m "data" = some (.vals d) ∧ lookup m "shape" = some (.ints s)
      ∧ lookup m "fill_value" = some (.val f) ∧ lookup m "indices" = some (.ints i) ∧ lookup m "indptr" = some (.ints p)
      ∧ lookup m "compressed_axes" = some (encAxes ca) := by
  simpa [allKeys, lookup_membersOf, gcxsKeys, Arr.attr] using save_lookup (Arr.gcxs e s d i p ca f) (table_gcxs_recognised h) hs

theorem loadFrom_congr (axesOk : List Int → Bool) {m m' : Members α} : ∀ (brs : List (String × List String)),
    (∀ k ∈ brs.flatMap (·.2), lookup m k = lookup m' k) → loadFrom axesOk m brs = loadFrom axesOk m' brs
  | [], _ => rfl
  | (cls, req) :: rest, hk => by
    unfold loadFrom
    rw [fetchAll_congr req (forall_mem_flatMap_cons hk).1, loadFrom_congr axesOk rest (forall_mem_flatMap_cons hk).2]

theorem decisive_congr {m m' : Members α} : ∀ (brs : List (String × List String)),
    (∀ k ∈ brs.flatMap (·.2), lookup m k = lookup m' k) → Decisive m' brs → Decisive m brs
  | [], _, _ => trivial
  | (cls, req) :: rest, hk, hd => by
    obtain ⟨hreq, hrest⟩ := forall_mem_flatMap_cons hk
    refine ⟨fun ⟨b, hb, hall⟩ => ?_, decisive_congr rest hrest hd.2⟩
    rw [fetchAll_congr req hreq]
    refine hd.1 ⟨b, hb, fun k hkb => ?_⟩
    rw [← hrest k (List.mem_flatMap.mpr ⟨b, hb, hkb⟩)]
    exact hall k hkb

/-- `load_npz` sees a member map only through `lookup` on the seven names, so `membersOf` can stand for what `save_npz` wrote -/
theorem load_of_agree (axesOk : List Int → Bool) {m m' : Members α} (h : ∀ k ∈ allKeys, lookup m k = lookup m' k) :
    load axesOk m = load axesOk m' :=
  loadFrom_congr axesOk _ (fun k hk => h k (vocabulary_sub k hk))

theorem load_membersOf_coo (axesOk : List Int → Bool) (s : List Int) (c : Mat) (d : List α) (f : α) :
    load axesOk (membersOf (Arr.coo s c d f) cooKeys) = cooCtor c d s f := by
  simp [membersOf, cooKeys, Arr.attr, load, Gen.npzRequire, loadFrom, fetchAll, lookup, construct]

theorem load_membersOf_gcxs (axesOk : List Int → Bool) (e : Bool) (s : List Int) (d : List α) (i p : List Int)
    (ca : Option (List Int)) (f : α) {l : List Int} (h : (encAxes ca : Payload α) = .ints l) :
    load axesOk (membersOf (Arr.gcxs e s d i p ca f) gcxsKeys) = gcxsCtor axesOk d i p (decodeAxes l) s f := by
  simp [membersOf, gcxsKeys, Arr.attr, h, load, Gen.npzRequire, loadFrom, fetchAll, lookup, construct]

def isKeyErr {β : Type} : Except BrErr β → Bool
  | .error .key => true
  | _ => false

theorem isKeyErr_eq {β : Type} {r : Except BrErr β} (h : isKeyErr r = true) : r = .error .key := by
  unfold isKeyErr at h
  split at h
  · rfl
  · cases h

/-- `Decisive`, computed -/
def decisiveB (m : Members α) : List (String × List String) → Bool
  | [] => true
  | (_, req) :: rest =>
    (!(rest.any (fun b => b.2.all (fun k => (lookup m k).isSome))) || isKeyErr (fetchAll m req)) && decisiveB m rest

theorem decisiveB_sound {m : Members α} : ∀ {brs : List (String × List String)}, decisiveB m brs = true → Decisive m brs
  | [], _ => trivial
  | (_, req) :: rest, h => by
    unfold decisiveB at h
    rw [Bool.and_eq_true, Bool.or_eq_true] at h
    refine ⟨fun ⟨b, hb, hall⟩ => ?_, decisiveB_sound h.2⟩
    rcases h.1 with h1 | h1
    · rw [Bool.not_eq_true', List.any_eq_false] at h1
      exact absurd (List.all_eq_true.mpr fun k hk => Option.isSome_iff_ne_none.mpr (hall k hk)) (h1 b hb)
    · exact isKeyErr_eq h1

/-- decided over the generated `npzRequire`; `encAxes` is the only payload whose kind — integer array or object
array — depends on the array and on a generated flag -/
theorem decisive_coo (s : List Int) (c : Mat) (d : List α) (f : α) :
    decisiveB (membersOf (Arr.coo s c d f) cooKeys) Gen.npzRequire = true := rfl
theorem decisive_gcxs (e : Bool) (s : List Int) (d : List α) (i p : List Int) (ca : Option (List Int)) (f : α) :
    decisiveB (membersOf (Arr.gcxs e s d i p ca f) gcxsKeys) Gen.npzRequire = true := by
  cases ca <;> rfl
theorem decisive_common (e : Bool) (s : List Int) (d : List α) (i p : List Int) (ca : Option (List Int)) (f : α) :
    decisiveB (membersOf (Arr.gcxs e s d i p ca f) commonKeys) Gen.npzRequire = true := rfl

theorem table_of (x : Arr α) : ∃ present attrs, WritesExactly (writeListOf x.clsName x.exact) present attrs = true
    ∧ (∀ a ∈ attrs, (x.attr a).isSome = true) ∧ decisiveB (membersOf x present) Gen.npzRequire = true := by
  cases x with
  | coo s c d f => exact ⟨cooKeys, cooKeys, table_coo, coo_attr_isSome s c d f, decisive_coo s c d f⟩
  | gcxs e s d i p ca f =>
    by_cases hcls : e = true ∨ gcxsExactTest = false
    · exact ⟨gcxsKeys, gcxsKeys, table_gcxs_recognised hcls, gcxs_attr_isSome e s d i p ca f, decisive_gcxs e s d i p ca f⟩
    · have he : e = false := Bool.eq_false_iff.mpr fun h => hcls (Or.inl h)
      have hg : gcxsExactTest = true := Classical.not_not.mp fun h => hcls (Or.inr (Bool.eq_false_iff.mpr h))
      subst he
      exact ⟨commonKeys, gcxsKeys, table_gcxs_sub_unrecognised hg, gcxs_attr_isSome false s d i p ca f,
        decisive_common false s d i p ca f⟩

theorem save_ok (x : Arr α) : ∃ m, save x = .ok m := by
  obtain ⟨_, _, ht, hattr, _⟩ := table_of x
  unfold save
  rw [writeList_eq]
  exact collect_ok x fun p hp => hattr p.2 ((writesExactly_lookup ht).2 p hp)

/-- the `try` blocks of `load_npz` cannot confuse the formats `save_npz` writes -/
theorem save_decisive (x : Arr α) (m : Members α) (hs : save x = .ok m) : Decisive m Gen.npzRequire := by
  -- `m` agrees with `membersOf x present` on every name `load_npz` asks for
  obtain ⟨_, _, ht, _, hd⟩ := table_of x
  exact decisive_congr _ (fun k hk => save_lookup x ht hs k (vocabulary_sub k hk)) (decisiveB_sound hd)

end SparseV.Npz
