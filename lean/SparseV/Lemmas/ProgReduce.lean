/-
  SparseV.Lemmas.ProgReduce — step lemma of the program theorem for `sum` / `max` / `min` over axes.
-/
import SparseV.Lemmas.ProgBase
import SparseV.Lemmas.ProgShape
import SparseV.Lemmas.Reduce
import SparseV.Props.C03
import SparseV.Props.C06
namespace SparseV
open SparseV.COO

theorem foldl_absorb (op : Int → Int → Int) (m : Int) (hsel : ∀ a b, op a b = a ∨ op a b = b) :
    ∀ (t : List Int) (a : Int), (∀ v ∈ a :: t, op m v = m ∧ op v m = m) → (a = m ∨ m ∈ t) → t.foldl op a = m
  | [], a, _, h => by
    rcases h with h | h
    · exact h
    · cases h
  | b :: t, a, habs, h => by
    rw [List.foldl_cons]
    have ha := habs a List.mem_cons_self
    have hb := habs b (List.mem_cons_of_mem _ List.mem_cons_self)
    apply foldl_absorb op m hsel t (op a b)
    · intro v hv
      rcases List.mem_cons.mp hv with rfl | hv
      · rcases hsel a b with h' | h' <;> rw [h']
        · exact ha
        · exact hb
      · exact habs v (List.mem_cons_of_mem _ (List.mem_cons_of_mem _ hv))
    · rcases h with rfl | h
      · exact Or.inl hb.1
      · rcases List.mem_cons.mp h with rfl | h
        · exact Or.inl ha.2
        · exact Or.inr h

theorem npFold1_absorb (op : Int → Int → Int) (hsel : ∀ a b, op a b = a ∨ op a b = b) (l : List Int) (m : Int)
    (habs : ∀ v ∈ l, op m v = m ∧ op v m = m) (hatt : m ∈ l) : npFold1 op l = m := by
  cases l with
  | nil => cases hatt
  | cons a t =>
    refine foldl_absorb op m hsel t a habs ?_
    rcases List.mem_cons.mp hatt with h | h
    · exact Or.inl h.symm
    · exact Or.inr h

namespace COO

theorem rowReduce_nofill (op : RedOp) (a : COO Int) (fill : Int) : (rowReduce op a fill).NoFill := by
  obtain ⟨vf, fill', h⟩ := rowReduce_form op a fill
  rw [h]
  exact fun e he => C06.nofill_prune _ _ e he

theorem reduceCore_good (op : RedOp) (x : COO Int) (axes : List Nat) (hwf : x.WF)
    (hs : SortedLin x.shape x.entries) (hnd : axes.Nodup) (hr : ∀ a ∈ axes, a < x.shape.length)
    (r : COO Int) (h : COO.reduceCore op x (some axes) false = .ok (.arr r)) :
    r.WF ∧ SortedLin r.shape r.entries ∧ r.NoFill := by
  -- an array came back, so the test for an empty reduced axis did not reject
  have hguard : ¬ (op.super?.isNone ∧ axes.any (fun a => x.shape.getD a 0 == 0)) := fun hc => by
    rw [reduceCore_eq, if_neg (reduce_admissible op x.fill)] at h
    dsimp only at h
    rw [if_pos hc] at h
    cases h
  have hp := kept_axes_perm _ axes hnd hr
  obtain ⟨hMs, _, hMwf, hMsort, _⟩ := reduceMat_facts x _ axes hp hwf hs
  obtain ⟨hOs, hOf, hOwf, hOsort, _⟩ := rowReduce_reshape op _ _ _ hMs hMwf hMsort x.fill _ rfl
  rw [reduceCore_eq_out op x axes hguard hwf hs _ rfl hp] at h
  split at h
  · cases h
  · cases RedResult.arr.inj (Except.ok.inj h)
    exact ⟨hOwf, hOs.symm ▸ hOsort, noFill_of_vals hOf (vals_reshapeCore _ _) (rowReduce_nofill op _ _)⟩

end COO

theorem reduce_unfold (op : RedOp) (x : COO Int) (axes : Option (List Int)) :
    x.reduce op axes false = (match Expr.reduceAxesD x.shape.length axes with
      | .error e => .error e
      | .ok ax => if ¬ ax.Nodup then .error .value else COO.reduceCore op x (some ax) false) := by
  unfold COO.reduce Expr.reduceAxesD
  cases axes with
  | none =>
    simp only []
    rw [if_neg (fun h => h List.nodup_range)]
    exact C03.reduceCore_none op x false
  | some as =>
    simp only []
    have : (as.mapM fun a => (Gen.normalizeAxisInt a x.shape.length).map Int.toNat) = npAxes as x.shape.length := by
      rw [← normAxes_eq_npAxes]; rfl
    rw [this]
    cases npAxes as x.shape.length with
    | error e => rfl
    | ok ax =>
      simp only [bind, Except.bind]
      by_cases hnd : ax.Nodup
      · simp [hnd]
      · simp [hnd, throw, throwThe, MonadExceptOf.throw]

theorem reduceAxesD_lt {n : Nat} {axes : Option (List Int)} {ax : List Nat}
    (h : Expr.reduceAxesD n axes = .ok ax) : ∀ a ∈ ax, a < n := by
  cases axes with
  | none =>
    cases Except.ok.inj h
    exact fun a ha => List.mem_range.mp ha
  | some as => exact npAxes_lt h

/-- the three reduction theorems of property C03 in the terms of the reference semantics -/
theorem reduceCore_refines (op : ROp) (x : COO Int) (d : Dense) (ax : List Nat) (hg : Good x) (hr : Refines x d)
    (hnd : ax.Nodup) (hlt : ∀ a ∈ ax, a < x.shape.length) (hpos : op ≠ .add → 0 < prod (gather x.shape ax)) :
    ∃ out : COO Int,
      COO.reduceCore op.toRedOp x (some ax) false =
        .ok (if (List.range x.shape.length).filter (fun a => !ax.contains a) = [] then .scalar (out.get [])
             else .arr out) ∧
      Refines out (Expr.reduceD op d ax) := by
  obtain ⟨dshape, dval, dfill⟩ := d
  obtain ⟨hshape, hfill, hval⟩ := hr
  simp only at hshape hfill hval
  subst hshape hfill
  generalize hkept : ((List.range x.shape.length).filter fun a => !ax.contains a) = kept
  have hcell : ∀ j, InB j (gather x.shape kept) →
      (allIdx (gather x.shape ax)).map (fun r => dval (gather (j ++ r) (invPerm (kept ++ ax))))
      = (allIdx (gather x.shape ax)).map (fun r => x.get (gather (j ++ r) (invPerm (kept ++ ax)))) := by
    intro j hj
    apply List.map_congr_left
    intro r hrr
    refine (hval _ (InB_gather_invPerm (hkept ▸ kept_axes_perm _ ax hnd hlt) ?_)).symm
    rw [gather_append]
    exact (InB_append _ _ _ _ (InB_length hj)).mpr ⟨hj, mem_allIdx.mp hrr⟩
  -- `max` / `min`: a bound on the cells that one of them attains is their fold
  have hfold : ∀ (f : Int → Int → Int) (le : Int → Int → Prop), (∀ a b, f a b = a ∨ f a b = b) →
      (∀ v m, le v m → f m v = m ∧ f v m = m) → ∀ (out : COO Int) (j : Idx), InB j (gather x.shape kept) →
      ((∀ r ∈ allIdx (gather x.shape ax), le (x.get (gather (j ++ r) (invPerm (kept ++ ax)))) (out.get j)) ∧
        ∃ r ∈ allIdx (gather x.shape ax), x.get (gather (j ++ r) (invPerm (kept ++ ax))) = out.get j) →
      out.get j = npFold1 f ((allIdx (gather x.shape ax)).map fun r => dval (gather (j ++ r) (invPerm (kept ++ ax)))) := by
    intro f le hsel habs out j hj ⟨hub, r0, hr0, hatt⟩
    rw [hcell j hj]
    symm
    apply npFold1_absorb f hsel
    · intro v hv
      obtain ⟨r, hrr, rfl⟩ := List.mem_map.mp hv
      exact habs _ _ (hub r hrr)
    · exact List.mem_map.mpr ⟨r0, hr0, hatt⟩
  cases op with
  | add =>
    obtain ⟨out, hred, hOs, hOf, hOget⟩ := C03.reduce_add_get x ax hg.wf hg.sorted hnd hlt
    rw [hkept] at hred hOs hOget
    refine ⟨out, hred, ?_⟩
    unfold Expr.reduceD
    simp only [hkept]
    refine ⟨hOs, hOf, fun j hj => ?_⟩
    rw [hOs] at hj
    dsimp only
    rw [hOget j hj, hcell j hj]
  | max =>
    obtain ⟨out, hred, hOs, hOf, hOget⟩ :=
      C03.reduce_max_get x ax hg.wf hg.sorted hnd hlt (hpos (by decide))
    rw [hkept] at hred hOs hOget
    refine ⟨out, hred, ?_⟩
    unfold Expr.reduceD
    simp only [hkept]
    refine ⟨hOs, hOf, fun j hj => ?_⟩
    rw [hOs] at hj
    exact hfold max (· ≤ ·) (fun a b => by omega) (fun v m h => by omega) out j hj (hOget j hj)
  | min =>
    obtain ⟨out, hred, hOs, hOf, hOget⟩ :=
      C03.reduce_min_get x ax hg.wf hg.sorted hnd hlt (hpos (by decide))
    rw [hkept] at hred hOs hOget
    refine ⟨out, hred, ?_⟩
    unfold Expr.reduceD
    simp only [hkept]
    refine ⟨hOs, hOf, fun j hj => ?_⟩
    rw [hOs] at hj
    exact hfold min (· ≥ ·) (fun a b => by omega) (fun v m h => by omega) out j hj (hOget j hj)

theorem reduce_step (op : ROp) (axes : Option (List Int)) (x : COO Int) (d : Dense) (hg : Good x)
    (hr : Refines x d) : Sim x.NoFill (Expr.mReduce op x axes) (Expr.sReduce op d axes) := by
  unfold Expr.mReduce Expr.sReduce
  rw [reduce_unfold, ← hr.shape]
  cases hax : Expr.reduceAxesD x.shape.length axes with
  | error e => exact Sim.err e
  | ok ax =>
    simp only []
    by_cases hnd : ax.Nodup
    · rw [if_neg (fun h => h hnd), if_neg (fun h => h hnd)]
      have hlt := reduceAxesD_lt hax
      by_cases hzero : op ≠ .add ∧ ax.any (fun a => x.shape.getD a 0 == 0) = true
      · rw [if_pos hzero]
        obtain ⟨a, ha, hz⟩ := List.any_eq_true.mp hzero.2
        rw [C03.reduce_empty_axis_rejected op.toRedOp x ax false
          (by cases op <;> first | rfl | exact absurd rfl hzero.1) ⟨a, ha, by simpa using hz⟩]
        exact Sim.err _
      · rw [if_neg hzero]
        obtain ⟨out, hred, href⟩ := reduceCore_refines op x d ax hg hr hnd hlt
          (fun hop => (prod_gather_pos_iff x.shape ax).mpr (Bool.eq_false_iff.mpr fun h => hzero ⟨hop, h⟩))
        rw [hred]
        by_cases hk : (List.range x.shape.length).filter (fun a => !ax.contains a) = []
        · rw [if_pos hk, if_pos hk]; exact Sim.err _
        · rw [if_neg hk, if_neg hk]
          rw [if_neg hk] at hred
          obtain ⟨hwf, hsorted, hnf⟩ := COO.reduceCore_good op.toRedOp x ax hg.wf hg.sorted hnd hlt out hred
          exact Sim.ok ⟨hwf, hsorted⟩ (fun _ => hnf) href
    · rw [if_pos hnd, if_pos hnd]
      exact Sim.err _

end SparseV
