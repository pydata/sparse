/-
  SparseV.Lemmas.ProgIndex — step lemma of the program theorem for basic indexing.
-/
import SparseV.Lemmas.ProgBase
import SparseV.Lemmas.ProgShape
import SparseV.Props.C02
namespace SparseV
open SparseV.COO SparseV.Spec

theorem basic_of_noZeroStep (idx : List BIx) (h : idx.any BIx.zeroStep = false) :
    ∀ e ∈ idx.map BIx.toIxE, BasicIxE e := by
  intro e he
  obtain ⟨b, hb, rfl⟩ := List.mem_map.mp he
  have hz := List.any_eq_false.mp h b hb
  cases b with
  | int i => trivial
  | newaxis => trivial
  | slice a b c =>
    cases c with
    | none => simp [BIx.toIxE, BasicIxE]
    | some c =>
      simp only [BIx.toIxE, BasicIxE]
      simp only [BIx.zeroStep, beq_iff_eq] at hz
      intro hc
      exact hz (Option.some.inj hc)

theorem noEllipsis_basic (idx : List BIx) : (idx.map BIx.toIxE).any IxE.isEllipsis = false := by
  rw [List.any_eq_false]
  intro e he
  obtain ⟨b, _, rfl⟩ := List.mem_map.mp he
  cases b <;> simp [BIx.toIxE, IxE.isEllipsis]

/-- two normalised entries select the same coordinates: equal, or two slices that select nothing
(the library clips an empty slice to `start = stop`, CPython does not) -/
def EqvE (e e' : NIx) : Prop :=
  e = e' ∨ ∃ a b s a' b' s', e = .slice a b s ∧ e' = .slice a' b' s' ∧ sliceLen a b s = 0 ∧ sliceLen a' b' s' = 0

inductive EqvL : List NIx → List NIx → Prop
  | nil : EqvL [] []
  | cons {e e' : NIx} {l l' : List NIx} : EqvE e e' → EqvL l l' → EqvL (e :: l) (e' :: l')

theorem sliceLen_of_isEmpty (t : Int × Int × Int) (h : Spec.isEmpty t = true) : sliceLen t.1 t.2.1 t.2.2 = 0 := by
  unfold Spec.isEmpty at h
  unfold sliceLen
  by_cases hs : t.2.2 > 0
  · rw [if_pos hs] at h
    rw [if_pos hs, if_neg (by have := of_decide_eq_true h; omega)]
  · rw [if_neg hs] at h
    rw [if_neg hs]
    split
    · rw [if_neg (by have := of_decide_eq_true h; omega)]
    · rfl

theorem npEntry_sim (e : BIx) (d : Nat) :
    SimR (fun h h' => e.zeroStep = false → EqvE h h') (normalizeEntry e.toIxE d) (Expr.npEntry e d) := by
  cases e with
  | int i =>
    simp only [BIx.toIxE, normalizeEntry, Expr.npEntry, C02.normalize_int_spec]
    by_cases hc : -(d : Int) ≤ i ∧ i < (d : Int)
    · simp only [if_pos hc]
      exact SimR.ok fun _ => Or.inl rfl
    · simp only [if_neg hc]
      exact SimR.err _
  | newaxis =>
    simp only [BIx.toIxE, normalizeEntry, Expr.npEntry]
    exact SimR.ok fun _ => Or.inl rfl
  | slice a b c =>
    simp only [BIx.toIxE, normalizeEntry, Expr.npEntry]
    refine SimR.ok fun hz => ?_
    have hs : c ≠ some 0 := by
      intro hc
      subst hc
      simp [BIx.zeroStep] at hz
    obtain ⟨h1, h2⟩ := C02.normalize_slice_spec a b c (d : Int) (by omega) hs
    cases hemp : Spec.isEmpty (Spec.pyAdjust a b (c.getD 1) (d : Int)) with
    | false => left; rw [h2 hemp]
    | true =>
      rw [hemp] at h1
      exact Or.inr ⟨_, _, _, _, _, _, rfl, rfl, sliceLen_of_isEmpty _ h1, sliceLen_of_isEmpty _ hemp⟩

theorem normalizeIndex_go_cons (e : IxE) (hne : e.isNone = false) (rest : List IxE) (d : Nat) (ds : List Nat) :
    normalizeIndex.go (e :: rest) (d :: ds) =
      (normalizeEntry e d >>= fun h => normalizeIndex.go rest ds >>= fun r => pure (h :: r)) := by
  cases e <;> first | rfl | simp [IxE.isNone] at hne

theorem normalizeIndex_go_cons_nil (e : IxE) (hne : e.isNone = false) (rest : List IxE) :
    normalizeIndex.go (e :: rest) [] = .error .index := by
  cases e <;> first | rfl | simp [IxE.isNone] at hne

theorem npGo_newaxis (rest : List BIx) (dims : List Nat) :
    Expr.npGo (.newaxis :: rest) dims = (Expr.npGo rest dims >>= fun r => pure (.newaxis :: r)) := by
  rw [Expr.npGo]
  cases Expr.npGo rest dims <;> rfl

theorem npGo_cons (e : BIx) (hne : e.isNewaxis = false) (rest : List BIx) (d : Nat) (ds : List Nat) :
    Expr.npGo (e :: rest) (d :: ds) =
      (Expr.npEntry e d >>= fun h => Expr.npGo rest ds >>= fun r => pure (h :: r)) := by
  have hb : (match Expr.npEntry e d with
      | .error er => .error er
      | .ok h => match Expr.npGo rest ds with
        | .ok r => .ok (h :: r)
        | .error er => .error er)
      = (Expr.npEntry e d >>= fun h => Expr.npGo rest ds >>= fun r => pure (h :: r)) := by
    cases Expr.npEntry e d with
    | error er => rfl
    | ok h => cases Expr.npGo rest ds <;> rfl
  cases e <;> first | exact hb | simp [BIx.isNewaxis] at hne

theorem npGo_cons_nil (e : BIx) (hne : e.isNewaxis = false) (rest : List BIx) :
    Expr.npGo (e :: rest) [] = .error .index := by
  cases e <;> first | rfl | simp [BIx.isNewaxis] at hne

theorem isNone_toIxE (e : BIx) : e.toIxE.isNone = e.isNewaxis := by cases e <;> rfl

theorem npGo_sim (idx : List BIx) : ∀ dims : List Nat,
    SimR (fun n n' => idx.any BIx.zeroStep = false → EqvL n n')
      (normalizeIndex.go (idx.map BIx.toIxE) dims) (Expr.npGo idx dims) := by
  induction idx with
  | nil => exact fun _ => SimR.ok (a := []) fun _ => EqvL.nil
  | cons e rest ih =>
    intro dims
    by_cases hnew : e.isNewaxis = true
    · cases e with
      | newaxis =>
        rw [npGo_newaxis]
        exact (ih dims).bind fun _ _ h => SimR.ok fun hz => EqvL.cons (Or.inl rfl) (h hz)
      | _ => cases hnew
    · have hnew' : e.isNewaxis = false := Bool.eq_false_iff.mpr hnew
      have hnone : e.toIxE.isNone = false := by rw [isNone_toIxE]; exact hnew'
      cases dims with
      | nil =>
        rw [List.map_cons, normalizeIndex_go_cons_nil _ hnone, npGo_cons_nil _ hnew']
        exact SimR.err _
      | cons d ds =>
        rw [List.map_cons, normalizeIndex_go_cons _ hnone, npGo_cons _ hnew']
        exact (npEntry_sim e d).bind fun _ _ h => (ih ds).bind fun _ _ hr => SimR.ok fun hz =>
          EqvL.cons (h (Bool.or_eq_false_iff.mp hz).1) (hr (Bool.or_eq_false_iff.mp hz).2)

theorem replaceEllipsis_bix (n : Nat) (idx : List BIx) :
    replaceEllipsis n (idx.map BIx.toIxE) = .ok (idx.map BIx.toIxE) := by
  unfold replaceEllipsis
  have : ((List.range (idx.map BIx.toIxE).length).filter fun i => ((idx.map BIx.toIxE).getD i .newaxis).isEllipsis) = [] := by
    rw [List.filter_eq_nil_iff]
    intro i hi
    have hi' : i < (idx.map BIx.toIxE).length := List.mem_range.mp hi
    rw [List.getD_eq_getElem?_getD, List.getElem?_eq_getElem hi', Option.getD_some, List.getElem_map]
    cases idx[i]'(by simpa using hi') <;> simp [BIx.toIxE, IxE.isEllipsis]
  simp only [this]

theorem nonNone_count (idx : List BIx) :
    ((idx.map BIx.toIxE).filter fun e => !e.isNone).length = (idx.filter fun e => !e.isNewaxis).length := by
  induction idx with
  | nil => rfl
  | cons e rest ih =>
    have h1 : (!(e.toIxE).isNone) = (!e.isNewaxis) := by rw [isNone_toIxE]
    rw [List.map_cons, List.filter_cons, List.filter_cons, h1]
    split <;> simp only [List.length_cons, ih]

theorem npIndex_sim (idx : List BIx) (shape : List Nat) :
    SimR (fun n n' => idx.any BIx.zeroStep = false → EqvL n n')
      (normalizeIndex (idx.map BIx.toIxE) shape) (Expr.npIndex idx shape) := by
  unfold normalizeIndex Expr.npIndex
  simp only [replaceEllipsis_bix, bind, Except.bind]
  generalize hk : (idx.filter fun e => !e.isNewaxis).length = k
  -- the library counts the consumed axes after padding with `:`, NumPy before
  have hcount : ((idx.map BIx.toIxE ++ List.replicate
        (shape.length - ((idx.map BIx.toIxE).filter fun e => !e.isNone).length) fullSlice).filter fun e => !e.isNone).length
      = k + (shape.length - k) := by
    rw [List.filter_append, List.length_append, nonNone_count, hk]
    congr 1
    simp [fullSlice, IxE.isNone]
  have hpad : idx.map BIx.toIxE ++ List.replicate (shape.length - ((idx.map BIx.toIxE).filter fun e => !e.isNone).length) fullSlice
      = (idx ++ List.replicate (shape.length - k) (BIx.slice none none none)).map BIx.toIxE := by
    rw [List.map_append, List.map_replicate, nonNone_count, hk]
    rfl
  have hzero : (idx ++ List.replicate (shape.length - k) (BIx.slice none none none)).any BIx.zeroStep
      = idx.any BIx.zeroStep := by
    rw [List.any_append, List.any_replicate]
    simp [BIx.zeroStep]
  rw [hcount, hpad]
  by_cases hgt : k > shape.length
  · rw [if_pos hgt, if_pos (by omega)]
    exact SimR.err _
  · rw [if_neg hgt, if_neg (by omega)]
    exact (npGo_sim _ shape).mono fun _ _ h hz => h (hzero ▸ hz)

theorem outShape_eqv : ∀ {n n' : List NIx}, EqvL n n' → ∀ adv, outShape n adv = outShape n' adv := by
  intro n n' h
  induction h with
  | nil => intro adv; rfl
  | cons he _ ih =>
    intro adv
    rcases he with rfl | ⟨a, b, s, a', b', s', rfl, rfl, h1, h2⟩
    · rename_i e _ _ _
      cases e with
      | int _ => simp only [outShape]; exact ih adv
      | slice _ _ _ => simp only [outShape]; rw [ih adv]
      | newaxis => simp only [outShape]; rw [ih adv]
      | arr xs =>
        simp only [outShape]
        rw [ih true]
    · simp only [outShape, h1, h2]; rw [ih adv]

theorem hasOut_eqv : ∀ {n n' : List NIx}, EqvL n n' → Spec.hasOut n = Spec.hasOut n' := by
  intro n n' h
  induction h with
  | nil => rfl
  | cons he _ ih =>
    rcases he with rfl | ⟨a, b, s, a', b', s', rfl, rfl, _, _⟩
    · simp only [Spec.hasOut, List.any_cons] at ih ⊢; rw [ih]
    · simp only [Spec.hasOut, List.any_cons] at ih ⊢; rw [ih]

theorem compose_eqv : ∀ {n n' : List NIx}, EqvL n n' → ∀ (shape : List Nat) (j : Idx), Spec.ValidIdx n shape →
    InB j (outShape n false) → Spec.compose n j = Spec.compose n' j := by
  intro n n' h
  induction h with
  | nil => intro shape j _ _; rfl
  | cons he _ ih =>
    intro shape j hv hj
    rcases he with rfl | ⟨a, b, s, a', b', s', rfl, rfl, h1, h2⟩
    · rename_i e _ _ _
      cases e with
      | int m =>
        cases shape with
        | nil => exact absurd hv (by simp [Spec.ValidIdx])
        | cons d ds =>
          simp only [Spec.ValidIdx] at hv
          simp only [outShape] at hj
          simp only [Spec.compose]
          rw [ih ds j hv.2 hj]
      | slice a b s =>
        cases shape with
        | nil => exact absurd hv (by simp [Spec.ValidIdx])
        | cons d ds =>
          simp only [Spec.ValidIdx] at hv
          simp only [outShape] at hj
          cases j with
          | nil => exact absurd hj (by simp [InB])
          | cons t j' =>
            simp only [Spec.compose]
            rw [ih ds j' hv.2 hj.2]
      | newaxis =>
        simp only [Spec.ValidIdx] at hv
        simp only [outShape] at hj
        cases j with
        | nil => exact absurd hj (by simp [InB])
        | cons t j' =>
          simp only [Spec.compose]
          exact ih shape j' hv hj.2
      | arr xs => exact absurd hv (by simp [Spec.ValidIdx])
    · -- two empty slices: the result has a zero extent, no index is in bounds
      simp only [outShape, h1] at hj
      cases j with
      | nil => exact absurd hj (by simp [InB])
      | cons t j' => exact absurd hj.1 (by omega)

theorem mem_ite_sortEntries {c : Prop} [Decidable c] {s : List Nat} {l : List (Idx × Int)} {e : Idx × Int}
    (h : e ∈ if c then sortEntries s l else l) : e ∈ l := by
  split at h
  · exact mem_sortEntries.mp h
  · exact h

/-- re-sorted when a step is negative, in order by `getitem_sorted_promise` otherwise -/
theorem getitemN_good (x : COO Int) (n : List NIx) (r : COO Int) (hg : Good x) (hv : ValidIdx n x.shape)
    (ho : hasOut n = true) (hr1 : x.getitemN n false = .arr r) : Good r ∧ (x.NoFill → r.NoFill) := by
  have hr2 := hr1
  rw [getitemN_eq x n false (validIdx_firstArrLen n x.shape hv)] at hr2
  by_cases hfull : isFullIndex n x.shape = true
  · simp only [hfull, if_true, GetResult.arr.injEq] at hr2
    subst hr2
    exact ⟨hg, fun h => h⟩
  · simp only [hfull, Bool.false_eq_true, if_false, ho, if_true, GetResult.arr.injEq] at hr2
    subst hr2
    refine ⟨⟨fun e he => ?_, ?_⟩, noFill_of_vals rfl fun e he => ?_⟩
    · obtain ⟨e0, he0, k, hk, rfl⟩ := mem_rewrite.mp (mem_ite_sortEntries he)
      exact (outOf_compose 0 false n x.shape e0.1 k hv (hg.wf e0 he0) hk).2
    · cases hneg : hasNegStep n with
      | false => exact C02.getitem_sorted_promise x n false hg.wf hv hneg hg.sorted _ (hneg ▸ hr1)
      | true =>
        simp only [hneg, if_true]
        exact COO.sortEntries_rewrite_sortedLin _ _ _ (compose n)
          (fun e he j' hj' => (outOf_compose 0 false n x.shape e.1 j' hv (hg.wf e he) hj').1) hg.nodup
          (fun e he j' hj' => (outOf_compose 0 false n x.shape e.1 j' hv (hg.wf e he) hj').2)
    · obtain ⟨e0, he0, k, _, rfl⟩ := mem_rewrite.mp (mem_ite_sortEntries he)
      exact ⟨e0, he0, rfl⟩

theorem getitem_step (idx : List BIx) (x : COO Int) (d : Dense) (hg : Good x) (hr : Refines x d) :
    Sim x.NoFill (Expr.mGetitem x idx) (Expr.sGetitem d idx) := by
  unfold Expr.mGetitem Expr.sGetitem
  rw [← hr.shape]
  unfold COO.getitem
  rw [noEllipsis_basic]
  have hsim := npIndex_sim idx x.shape
  cases hn : normalizeIndex (idx.map BIx.toIxE) x.shape with
  | error e =>
    rw [hn] at hsim
    rw [show Expr.npIndex idx x.shape = .error e from hsim]
    exact Sim.err e
  | ok n =>
    rw [hn] at hsim
    obtain ⟨n', hn', heqv⟩ := hsim
    rw [hn']
    simp only [bind, Except.bind, pure, Except.pure]
    refine SimR.reject fun hz => ?_
    have hz' : idx.any BIx.zeroStep = false := Bool.eq_false_iff.mpr hz
    have heq := heqv hz'
    rw [← hasOut_eqv heq, ← outShape_eqv heq false]
    have hv : ValidIdx n x.shape := C02.normalize_index_valid _ _ n (basic_of_noZeroStep idx hz') hn
    cases ho : hasOut n with
    | false =>
      rw [(C02.getitemN_scalar x n hg.wf hv ho).1]
      simp only [Bool.false_eq_true, if_false]
      exact Sim.err _
    | true =>
      obtain ⟨r, hr1, hshape, hfill, hget⟩ := C02.getitemN_get x n false hg.wf hg.nodup hv ho
      have href : Refines r { shape := outShape n false, fill := d.fill, val := fun j => d.val (Spec.compose n' j) } := by
        refine ⟨hshape, hfill.trans hr.fill, fun j hj => ?_⟩
        rw [(hget j hj).2]
        show _ = d.val (Spec.compose n' j)
        rw [← compose_eqv heq x.shape j hv (hshape ▸ hj)]
        exact hr.val _ (hget j hj).1
      obtain ⟨hgood, hnf⟩ := getitemN_good x n r hg hv ho hr1
      rw [hr1]
      simp only [if_true]
      exact Sim.ok hgood hnf href

end SparseV
