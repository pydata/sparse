/-
  SparseV.Lemmas.Reduce — helper lemmas for reductions: what `groupRuns` computes on a list
  sorted by row, the row reduction of a canonical 2-D array, and `reduceCore` over any axes as that
  row reduction after transpose + reshape.
-/
import SparseV.Lemmas.Join
import SparseV.Model.Reduce
import SparseV.Model.Gcxs
import SparseV.Props.C08
namespace SparseV

def rowVals (l : List (Nat × Int)) (r : Nat) : List Int := (l.filter fun p => p.1 = r).map (·.2)

/-- `ufunc.reduceat` on one segment -/
def foldl1 (op : Int → Int → Int) : List Int → Int
  | [] => 0
  | v :: vs => vs.foldl op v

theorem rowVals_cons_eq (r : Nat) (v : Int) (l : List (Nat × Int)) : rowVals ((r, v) :: l) r = v :: rowVals l r := by
  simp [rowVals]

theorem rowVals_cons_ne (r r' : Nat) (v : Int) (l : List (Nat × Int)) (h : r' ≠ r) :
    rowVals ((r', v) :: l) r = rowVals l r := by
  simp [rowVals, h]

theorem rowVals_eq_nil {l : List (Nat × Int)} {r : Nat} (h : r ∉ l.map (·.1)) : rowVals l r = [] := by
  simp only [rowVals, List.map_eq_nil_iff, List.filter_eq_nil_iff]
  intro p hp hc
  apply h
  simp only [decide_eq_true_eq] at hc
  exact List.mem_map.mpr ⟨p, hp, hc⟩

theorem rowVals_ne_nil {l : List (Nat × Int)} {r : Nat} (h : r ∈ l.map (·.1)) : rowVals l r ≠ [] := by
  obtain ⟨p, hp, rfl⟩ := List.mem_map.mp h
  intro hc
  simp only [rowVals, List.map_eq_nil_iff, List.filter_eq_nil_iff] at hc
  exact hc p hp (by simp)

theorem rowVals_filter_ne (l : List (Nat × Int)) {r r' : Nat} (h : r' ≠ r) :
    rowVals (l.filter fun p => p.1 ≠ r) r' = rowVals l r' := by
  unfold rowVals
  rw [List.filter_filter]
  congr 2
  funext p
  by_cases hp : p.1 = r' <;> simp [hp, h]

/-- `groupRunsAux` with the pending run `(r, acc, n)`: the run absorbs the remaining values of row `r`
(which come first, the rows being sorted); the other rows are grouped afresh -/
theorem groupRunsAux_eq (op : Int → Int → Int) : ∀ (rest : List (Nat × Int)) (r : Nat) (acc : Int) (n : Nat),
    (rest.map (·.1)).Pairwise (· ≤ ·) → (∀ p ∈ rest, r ≤ p.1) →
    groupRunsAux op (r, acc, n) rest =
      (r, (rowVals rest r).foldl op acc, n + (rowVals rest r).length) ::
        groupRuns op (rest.filter fun p => p.1 ≠ r)
  | [], r, acc, n, _, _ => rfl
  | (r', v) :: rest, r, acc, n, hs, hge => by
    rw [List.map_cons, List.pairwise_cons] at hs
    have hge' : ∀ p ∈ rest, r' ≤ p.1 := fun p hp => hs.1 _ (List.mem_map_of_mem hp)
    by_cases hr : r = r'
    · subst hr
      rw [groupRunsAux, if_pos rfl, groupRunsAux_eq op rest r _ _ hs.2 hge', rowVals_cons_eq,
        List.filter_cons_of_neg (by simp), List.foldl_cons, List.length_cons, Nat.add_right_comm, Nat.add_assoc]
    · have hlt : r < r' := Nat.lt_of_le_of_ne (hge _ List.mem_cons_self) hr
      have hnone : r ∉ ((r', v) :: rest).map (·.1) := by
        intro hm
        obtain ⟨p, hp, hpr⟩ := List.mem_map.mp hm
        rcases List.mem_cons.mp hp with rfl | hp
        · exact hr hpr.symm
        · exact absurd (hpr ▸ hge' p hp) (Nat.not_le_of_lt hlt)
      rw [groupRunsAux, if_neg hr, rowVals_eq_nil hnone, List.filter_eq_self.mpr]
      · rfl
      · intro p hp
        have : p.1 ≠ r := fun h => hnone (h ▸ List.mem_map_of_mem hp)
        simpa using this

theorem groupRuns_cons (op : Int → Int → Int) (r : Nat) (v : Int) (rest : List (Nat × Int))
    (hs : (((r, v) :: rest).map (·.1)).Pairwise (· ≤ ·)) :
    groupRuns op ((r, v) :: rest) =
      (r, foldl1 op (rowVals ((r, v) :: rest) r), (rowVals ((r, v) :: rest) r).length) ::
        groupRuns op (rest.filter fun p => p.1 ≠ r) := by
  rw [List.map_cons, List.pairwise_cons] at hs
  rw [groupRuns, groupRunsAux_eq op rest r v 1 hs.2 (fun p hp => hs.1 _ (List.mem_map_of_mem hp)),
    rowVals_cons_eq, foldl1, List.length_cons, Nat.add_comm]

theorem groupRuns_spec_aux (op : Int → Int → Int) (l : List (Nat × Int)) (hs : (l.map (·.1)).Pairwise (· ≤ ·)) :
    ((groupRuns op l).map (·.1)).Pairwise (· < ·) ∧
    (∀ r, r ∈ (groupRuns op l).map (·.1) ↔ r ∈ l.map (·.1)) ∧
    ∀ g ∈ groupRuns op l, g.2.1 = foldl1 op (rowVals l g.1) ∧ g.2.2 = (rowVals l g.1).length := by
  match l, hs with
  | [], _ => simp [groupRuns]
  | (r, v) :: rest, hs =>
    have hrows : ∀ r', r' ∈ (rest.filter fun p => p.1 ≠ r).map (·.1) ↔ r' ∈ rest.map (·.1) ∧ r' ≠ r := by
      intro r'
      simp only [List.mem_map, List.mem_filter, decide_eq_true_eq]
      exact ⟨fun ⟨p, ⟨hp, hn⟩, h⟩ => ⟨⟨p, hp, h⟩, h ▸ hn⟩, fun ⟨⟨p, hp, h⟩, hn⟩ => ⟨p, ⟨hp, h ▸ hn⟩, h⟩⟩
    obtain ⟨i1, i2, i3⟩ := groupRuns_spec_aux op (rest.filter fun p => p.1 ≠ r)
      ((List.pairwise_cons.mp hs).2.sublist (List.filter_sublist.map _))
    have hgt : ∀ r' ∈ (groupRuns op (rest.filter fun p => p.1 ≠ r)).map (·.1), r < r' := fun r' h =>
      have h := (hrows r').mp ((i2 r').mp h)
      Nat.lt_of_le_of_ne ((List.pairwise_cons.mp hs).1 r' h.1) (Ne.symm h.2)
    rw [groupRuns_cons op r v rest hs]
    refine ⟨List.pairwise_cons.mpr ⟨hgt, i1⟩, fun r' => ?_, fun g hg => ?_⟩
    · rw [List.map_cons, List.map_cons, List.mem_cons, List.mem_cons, i2 r', hrows r']
      by_cases hn : r' = r
      · exact ⟨fun _ => Or.inl hn, fun _ => Or.inl hn⟩
      · exact ⟨fun h => Or.inr (h.resolve_left hn).1, fun h => Or.inr ⟨h.resolve_left hn, hn⟩⟩
    · rcases List.mem_cons.mp hg with rfl | hg
      · exact ⟨rfl, rfl⟩
      · have hne : g.1 ≠ r := Nat.ne_of_gt (hgt _ (List.mem_map_of_mem hg))
        rw [rowVals_cons_ne _ _ _ _ (Ne.symm hne), ← rowVals_filter_ne rest hne]
        exact i3 g hg
termination_by l.length
decreasing_by
  simp only [List.length_cons]
  exact Nat.lt_succ_of_le (List.length_filter_le _ _)

theorem foldl1_add_eq_sum (l : List Int) : foldl1 (· + ·) l = l.sum := by
  cases l with
  | nil => rfl
  | cons x l => simp only [foldl1, foldl_add_eq_sum, List.sum_cons]

theorem foldl_sel_spec (op : Int → Int → Int) (le : Int → Int → Prop)
    (hsel : ∀ a b, op a b = a ∨ op a b = b) (hl : ∀ a b, le a (op a b)) (hr : ∀ a b, le b (op a b))
    (htrans : ∀ a b c, le a b → le b c → le a c) (hrefl : ∀ a, le a a) :
    ∀ (l : List Int) (a : Int), l.foldl op a ∈ a :: l ∧ ∀ v ∈ a :: l, le v (l.foldl op a)
  | [], a => by simp [hrefl]
  | x :: l, a => by
    obtain ⟨i1, i2⟩ := foldl_sel_spec op le hsel hl hr htrans hrefl l (op a x)
    have htop := i2 _ List.mem_cons_self
    rw [List.foldl_cons]
    refine ⟨?_, List.forall_mem_cons.mpr ⟨htrans _ _ _ (hl a x) htop, List.forall_mem_cons.mpr
      ⟨htrans _ _ _ (hr a x) htop, fun v hv => i2 v (List.mem_cons_of_mem _ hv)⟩⟩⟩
    rcases List.mem_cons.mp i1 with h | h
    · rw [h]
      rcases hsel a x with h' | h'
      · rw [h']; exact List.mem_cons_self
      · rw [h']; exact List.mem_cons_of_mem _ List.mem_cons_self
    · exact List.mem_cons_of_mem _ (List.mem_cons_of_mem _ h)

theorem foldl1_sel_spec (op : Int → Int → Int) (le : Int → Int → Prop)
    (hsel : ∀ a b, op a b = a ∨ op a b = b) (hl : ∀ a b, le a (op a b)) (hr : ∀ a b, le b (op a b))
    (htrans : ∀ a b c, le a b → le b c → le a c) (hrefl : ∀ a, le a a) (l : List Int) (hne : l ≠ []) :
    foldl1 op l ∈ l ∧ ∀ v ∈ l, le v (foldl1 op l) := by
  cases l with
  | nil => exact absurd rfl hne
  | cons x l => exact foldl_sel_spec op le hsel hl hr htrans hrefl l x

namespace COO

/-- the row reduction `reduceCore` performs on the 2-D array `a` (`fill` = fill value of the operand):
runs of equal row number, correction for the unstored cells, new fill value, prune -/
def rowReduce (op : RedOp) (a : COO Int) (fill : Int) : COO Int :=
  let nCols := a.shape.getD 1 0
  let runs := groupRuns op.ap (a.entries.map fun e => (e.1.getD 0 0, e.2))
  let (data, fill') : List (Nat × Int) × Int :=
    match op.super? with
    | none => (runs.map fun (r, v, n) => (r, if n ≠ nCols then op.ap v fill else v), fill)
    | some sup => (runs.map fun (r, v, n) => (r, op.ap v (sup fill (nCols - n))), sup fill nCols)
  COO.build [a.shape.getD 0 0] (data.map fun (r, v) => ([r], v)) fill' true false true

theorem reduceCore_eq (op : RedOp) (x : COO Int) (axes : Option (List Nat)) (keepdims : Bool) :
    reduceCore op x axes keepdims =
      if op.ap x.fill x.fill ≠ x.fill ∧ op.super?.isNone then .error .value else
      let nd := x.shape.length
      let axes := match axes with | none => List.range nd | some a => a
      if op.super?.isNone ∧ axes.any (fun a => x.shape.getD a 0 == 0) then .error .value else
      let kept := (List.range nd).filter fun a => !axes.contains a
      let a := (x.transposeCore (kept ++ axes)).reshapeCore
        [prod (kept.map fun d => x.shape.getD d 0), prod (axes.map fun d => x.shape.getD d 0)]
      let out := (rowReduce op a x.fill).reshapeCore (kept.map fun d => x.shape.getD d 0)
      let out := if keepdims then
          out.reshapeCore ((List.range nd).map fun d => if axes.contains d then 1 else x.shape.getD d 0)
        else out
      if out.shape.length = 0 then
        .ok (.scalar (match out.entries with | e :: _ => e.2 | [] => out.fill))
      else .ok (.arr out) := by
  unfold reduceCore
  simp only [throw_if_bind]
  rfl

theorem prod_gather_pos_iff (s : List Nat) : ∀ (axes : List Nat),
    0 < prod (gather s axes) ↔ axes.any (fun a => s.getD a 0 == 0) = false
  | [] => ⟨fun _ => rfl, fun _ => Nat.one_pos⟩
  | a :: axes => by
    have ih := prod_gather_pos_iff s axes
    simp only [gather, List.map_cons, prod] at ih ⊢
    rw [List.any_cons, Bool.or_eq_false_iff, beq_eq_false_iff_ne, ← ih, Nat.pos_iff_ne_zero, Nat.pos_iff_ne_zero,
      Nat.mul_ne_zero_iff]

def rowList (es : List (Idx × Int)) : List (Nat × Int) := es.map fun e => (e.1.getD 0 0, e.2)

def rowCols (es : List (Idx × Int)) (i : Nat) : List Nat :=
  (es.filter fun e => e.1.getD 0 0 = i).map fun e => e.1.getD 1 0

theorem InB2 {k : Idx} {R C : Nat} (h : InB k [R, C]) : ∃ r c, k = [r, c] ∧ r < R ∧ c < C := by
  match k, h with
  | [r, c], h => exact ⟨r, c, rfl, h.1, h.2.1⟩

theorem lex2_of_ravel_lt {k k' : Idx} {R C : Nat} (h : InB k [R, C]) (h' : InB k' [R, C])
    (hlt : ravel k [R, C] < ravel k' [R, C]) :
    k.getD 0 0 < k'.getD 0 0 ∨ k.getD 0 0 = k'.getD 0 0 ∧ k.getD 1 0 < k'.getD 1 0 := by
  obtain ⟨r, c, rfl, _, _⟩ := InB2 h
  obtain ⟨r', c', rfl, _, _⟩ := InB2 h'
  simpa [List.cons_lt_cons_iff] using lex_of_ravel_lt h h' hlt

theorem rowList_sorted (es : List (Idx × Int)) (R C : Nat) (hwf : ∀ e ∈ es, InB e.1 [R, C])
    (hs : SortedLin [R, C] es) : ((rowList es).map (·.1)).Pairwise (· ≤ ·) := by
  unfold SortedLin lin at hs
  rw [List.pairwise_map] at hs
  unfold rowList
  rw [List.map_map, List.pairwise_map]
  refine hs.imp_of_mem fun he he' hlt => ?_
  rcases lex2_of_ravel_lt (hwf _ he) (hwf _ he') hlt with h | ⟨h, _⟩
  · exact Nat.le_of_lt h
  · exact Nat.le_of_eq h

theorem rowCols_sorted (es : List (Idx × Int)) (R C : Nat) (hwf : ∀ e ∈ es, InB e.1 [R, C])
    (hs : SortedLin [R, C] es) (i : Nat) : (rowCols es i).Pairwise (· < ·) := by
  unfold SortedLin lin at hs
  rw [List.pairwise_map] at hs
  rw [rowCols, List.pairwise_map]
  refine (hs.filter _).imp_of_mem fun he he' hlt => ?_
  obtain ⟨hee, hi⟩ := List.mem_filter.mp he
  obtain ⟨hee', hi'⟩ := List.mem_filter.mp he'
  rcases lex2_of_ravel_lt (hwf _ hee) (hwf _ hee') hlt with h | ⟨_, h⟩
  · rw [of_decide_eq_true hi, of_decide_eq_true hi'] at h
    exact absurd h (Nat.lt_irrefl _)
  · exact h

theorem rowVals_rowList_length (es : List (Idx × Int)) (i : Nat) :
    (rowVals (rowList es) i).length = (rowCols es i).length := by
  simp only [rowVals, rowList, rowCols, List.length_map, List.filter_map, Function.comp_def]

theorem rowCols_lt (es : List (Idx × Int)) (R C : Nat) (hwf : ∀ e ∈ es, InB e.1 [R, C]) (i : Nat) :
    ∀ x ∈ rowCols es i, x < C := by
  intro x hx
  obtain ⟨e, he, rfl⟩ := List.mem_map.mp hx
  obtain ⟨r, c, hk, _, hc⟩ := InB2 (hwf e (List.mem_filter.mp he).1)
  rw [hk]
  exact hc

theorem rowCols_below (es : List (Idx × Int)) (R C : Nat) (hwf : ∀ e ∈ es, InB e.1 [R, C])
    (hs : SortedLin [R, C] es) (i : Nat) :
    (rowCols es i).length ≤ C ∧ ((rowCols es i).length = C → ∀ c, c < C → c ∈ rowCols es i) ∧
      ((rowCols es i).length ≠ C → ∃ c, c < C ∧ c ∉ rowCols es i) :=
  nodup_below _ C ((rowCols_sorted es R C hwf hs i).imp Nat.ne_of_lt) (rowCols_lt es R C hwf i)

theorem rowCount_le (es : List (Idx × Int)) (R C : Nat) (hwf : ∀ e ∈ es, InB e.1 [R, C])
    (hs : SortedLin [R, C] es) (i : Nat) : (rowVals (rowList es) i).length ≤ C := by
  rw [rowVals_rowList_length]
  exact (rowCols_below es R C hwf hs i).1

theorem mem_rowVals_rowList {es : List (Idx × Int)} {i : Nat} {v : Int} :
    v ∈ rowVals (rowList es) i ↔ ∃ e ∈ es, e.1.getD 0 0 = i ∧ e.2 = v := by
  simp only [rowVals, rowList, List.mem_map, List.mem_filter, decide_eq_true_eq]
  constructor
  · rintro ⟨p, ⟨⟨e, he, rfl⟩, hp⟩, rfl⟩
    exact ⟨e, he, hp, rfl⟩
  · rintro ⟨e, he, h1, h2⟩
    exact ⟨_, ⟨⟨e, he, rfl⟩, h1⟩, h2⟩

theorem lookup_row_missing (es : List (Idx × Int))
    (fill : Int) (i c : Nat) (hc : c ∉ rowCols es i) : lookup es fill [i, c] = fill := by
  apply lookup_of_not_mem
  intro hk
  obtain ⟨e, he, hek⟩ := mem_keysOf.mp hk
  apply hc
  exact List.mem_map.mpr ⟨e, List.mem_filter.mpr ⟨he, by simp [hek]⟩, by simp [hek]⟩

theorem rowCols_mem_key (es : List (Idx × Int)) (R C : Nat) (hwf : ∀ e ∈ es, InB e.1 [R, C])
    (i c : Nat) (hc : c ∈ rowCols es i) : [i, c] ∈ keysOf es := by
  obtain ⟨e, he, hcc⟩ := List.mem_map.mp hc
  obtain ⟨hee, hi⟩ := List.mem_filter.mp he
  obtain ⟨r, c', hk, _, _⟩ := InB2 (hwf e hee)
  simp only [hk, List.getD_cons_zero, List.getD_cons_succ, decide_eq_true_eq] at hi hcc
  exact mem_keysOf.mpr ⟨e, hee, by rw [hk, hi, hcc]⟩

theorem get_row_cases (es : List (Idx × Int)) (R C : Nat) (hwf : ∀ e ∈ es, InB e.1 [R, C])
    (hs : SortedLin [R, C] es) (fill : Int) (i c : Nat) (hc : c < C) :
    lookup es fill [i, c] ∈ rowVals (rowList es) i ∨
      (lookup es fill [i, c] = fill ∧ (rowVals (rowList es) i).length ≠ C) := by
  by_cases hk : [i, c] ∈ keysOf es
  · left
    obtain ⟨e, he, hek⟩ := mem_keysOf.mp hk
    rw [lookup_of_mem (sortedLin_keys_nodup _ _ hs) (hek ▸ he : ([i, c], e.2) ∈ es)]
    exact mem_rowVals_rowList.mpr ⟨e, he, by rw [hek]; rfl, rfl⟩
  · refine Or.inr ⟨lookup_of_not_mem hk, fun hn => hk (rowCols_mem_key es R C hwf i c ?_)⟩
    exact (rowCols_below es R C hwf hs i).2.1 (by rw [← rowVals_rowList_length, hn]) c hc

theorem row_fill_attained (es : List (Idx × Int)) (R C : Nat) (hwf : ∀ e ∈ es, InB e.1 [R, C])
    (hs : SortedLin [R, C] es) (fill : Int) (i : Nat) (hn : (rowVals (rowList es) i).length ≠ C) :
    ∃ c, c < C ∧ lookup es fill [i, c] = fill := by
  rw [rowVals_rowList_length] at hn
  obtain ⟨c, hc, hmiss⟩ := (rowCols_below es R C hwf hs i).2.2 hn
  exact ⟨c, hc, lookup_row_missing es fill i c hmiss⟩

theorem rowVals_attained (es : List (Idx × Int)) (R C : Nat) (hwf : ∀ e ∈ es, InB e.1 [R, C])
    (hnd : (keysOf es).Nodup) (fill : Int) (i : Nat) (v : Int) (hv : v ∈ rowVals (rowList es) i) :
    ∃ c, c < C ∧ lookup es fill [i, c] = v := by
  obtain ⟨e, he, hi, hev⟩ := mem_rowVals_rowList.mp hv
  obtain ⟨r, c, hk, _, hc⟩ := InB2 (hwf e he)
  simp only [hk, List.getD_cons_zero] at hi
  refine ⟨c, hc, ?_⟩
  apply lookup_of_mem hnd
  rw [← hev, ← hi, ← hk]
  exact he

theorem row_sum (R C : Nat) (fill : Int) (i : Nat) (es : List (Idx × Int)) (hwf : ∀ e ∈ es, InB e.1 [R, C])
    (hnd : (keysOf es).Nodup) :
    ((List.range C).map fun c => lookup es fill [i, c]).sum
      = fill * C + (rowVals (rowList es) i).sum - fill * ((rowVals (rowList es) i).length : Int) := by
  induction es with
  | nil => simp [rowVals, rowList, List.map_const', List.sum_replicate_int, Int.mul_comm]
  | cons e es ih =>
    simp only [keysOf, List.map_cons, List.nodup_cons] at hnd
    have ih := ih (fun e' he' => hwf e' (List.mem_cons_of_mem _ he')) hnd.2
    obtain ⟨r, c, hk, _, hc⟩ := InB2 (hwf e List.mem_cons_self)
    by_cases hr : r = i
    · subst hr
      have hfun : (fun c' => lookup (e :: es) fill [r, c']) =
          fun c' => if c = c' then e.2 else lookup es fill [r, c'] := by
        funext c'
        rw [lookup_cons, hk]
        simp
      have hmiss : lookup es fill [r, c] = fill := lookup_of_not_mem (hk ▸ hnd.1)
      rw [hfun, sum_map_update _ c e.2 _ List.nodup_range (List.mem_range.mpr hc), ih, hmiss]
      have : rowList (e :: es) = (r, e.2) :: rowList es := by simp [rowList, hk]
      rw [this, rowVals_cons_eq]
      simp only [List.sum_cons, List.length_cons, Int.natCast_add, Int.mul_add]
      omega
    · have hfun : (fun c' => lookup (e :: es) fill [i, c']) = fun c' => lookup es fill [i, c'] := by
        funext c'
        rw [lookup_cons, hk]
        simp [hr]
      have : rowList (e :: es) = (r, e.2) :: rowList es := by simp [rowList, hk]
      rw [hfun, ih, this, rowVals_cons_ne _ _ _ _ hr]

theorem lookup_rowRuns (op : Int → Int → Int) (l : List (Nat × Int)) (hs : (l.map (·.1)).Pairwise (· ≤ ·))
    (φ : Nat × Int × Nat → Int) (d : Int) (i : Nat) :
    lookup (pruneEntries d ((groupRuns op l).map fun g => ([g.1], φ g))) d [i]
      = if i ∈ l.map (·.1) then φ (i, foldl1 op (rowVals l i), (rowVals l i).length) else d := by
  obtain ⟨s1, s2, s3⟩ := groupRuns_spec_aux op l hs
  have hnd : (keysOf ((groupRuns op l).map fun g => ([g.1], φ g))).Nodup := by
    unfold keysOf
    rw [List.map_map, List.nodup_iff_pairwise_ne, List.pairwise_map]
    rw [List.pairwise_map] at s1
    exact s1.imp (fun h heq => by simp only [Function.comp, List.cons.injEq, and_true] at heq; omega)
  rw [lookup_prune d _ _ hnd]
  by_cases hi : i ∈ l.map (·.1)
  · rw [if_pos hi]
    obtain ⟨g, hg, hgi⟩ := List.mem_map.mp ((s2 i).mpr hi)
    obtain ⟨t1, t2⟩ := s3 g hg
    have hgeq : g = (i, foldl1 op (rowVals l i), (rowVals l i).length) := by
      rw [← hgi, ← t1, ← t2]
    rw [← hgeq]
    apply lookup_of_mem hnd
    rw [← hgi]
    exact List.mem_map.mpr ⟨g, hg, rfl⟩
  · rw [if_neg hi]
    apply lookup_of_not_mem
    intro hm
    obtain ⟨e, he, hk⟩ := mem_keysOf.mp hm
    obtain ⟨g, hg, rfl⟩ := List.mem_map.mp he
    simp only [List.cons.injEq, and_true] at hk
    exact hi ((s2 i).mp (List.mem_map.mpr ⟨g, hg, hk⟩))

theorem rowReduce_eq (op : RedOp) (a : COO Int) (fill : Int) :
    rowReduce op a fill =
      match op.super? with
      | none => ⟨[a.shape.getD 0 0], pruneEntries fill ((groupRuns op.ap (rowList a.entries)).map fun g =>
          ([g.1], if g.2.2 ≠ a.shape.getD 1 0 then op.ap g.2.1 fill else g.2.1)), fill⟩
      | some sup => ⟨[a.shape.getD 0 0], pruneEntries (sup fill (a.shape.getD 1 0))
          ((groupRuns op.ap (rowList a.entries)).map fun g =>
            ([g.1], op.ap g.2.1 (sup fill (a.shape.getD 1 0 - g.2.2)))), sup fill (a.shape.getD 1 0)⟩ := by
  unfold rowReduce
  cases op.super? with
  | none => simp only [COO.build, List.map_map, Bool.false_eq_true, if_false, if_true]; rfl
  | some sup => simp only [COO.build, List.map_map, Bool.false_eq_true, if_false, if_true]; rfl

theorem rowReduce_form (op : RedOp) (a : COO Int) (fill : Int) : ∃ (φ : Nat × Int × Nat → Int) (d : Int),
    rowReduce op a fill = ⟨[a.shape.getD 0 0],
      pruneEntries d ((groupRuns op.ap (rowList a.entries)).map fun g => ([g.1], φ g)), d⟩ := by
  rw [rowReduce_eq]
  cases op.super? with
  | none => exact ⟨_, _, rfl⟩
  | some sup => exact ⟨_, _, rfl⟩

theorem rowReduce_add_eq (a : COO Int) (fill : Int) :
    rowReduce .add a fill =
      { shape := [a.shape.getD 0 0],
        entries := pruneEntries (fill * (a.shape.getD 1 0 : Int))
          ((groupRuns (· + ·) (rowList a.entries)).map fun g =>
            ([g.1], g.2.1 + fill * ((a.shape.getD 1 0 - g.2.2 : Nat) : Int))),
        fill := fill * (a.shape.getD 1 0 : Int) } := rowReduce_eq .add a fill

theorem rowReduce_sel_eq (op : RedOp) (hsup : op.super? = none) (a : COO Int) (fill : Int) :
    rowReduce op a fill =
      { shape := [a.shape.getD 0 0],
        entries := pruneEntries fill
          ((groupRuns op.ap (rowList a.entries)).map fun g =>
            ([g.1], if g.2.2 ≠ a.shape.getD 1 0 then op.ap g.2.1 fill else g.2.1)),
        fill := fill } := by
  rw [rowReduce_eq, hsup]

theorem rowReduce_facts (op : RedOp) (a : COO Int) (R C : Nat) (hshape : a.shape = [R, C]) (hwf : a.WF)
    (hs : SortedLin a.shape a.entries) (fill : Int) :
    (rowReduce op a fill).shape = [R] ∧ (rowReduce op a fill).WF ∧ SortedLin [R] (rowReduce op a fill).entries := by
  have hwf' : ∀ e ∈ a.entries, InB e.1 [R, C] := fun e he => hshape ▸ hwf e he
  obtain ⟨s1, s2, _⟩ := groupRuns_spec_aux op.ap _ (rowList_sorted a.entries R C hwf' (hshape ▸ hs))
  obtain ⟨φ, d, h⟩ := rowReduce_form op a fill
  rw [h, hshape]
  refine ⟨rfl, fun e he => ?_, prune_sortedLin [R] d _ ?_⟩
  · obtain ⟨g, hg, rfl⟩ := List.mem_map.mp (List.mem_filter.mp he).1
    obtain ⟨q, hq, hqg⟩ := List.mem_map.mp ((s2 g.1).mp (List.mem_map_of_mem hg))
    obtain ⟨e0, he0, rfl⟩ := List.mem_map.mp hq
    obtain ⟨r, c, hk0, hr, _⟩ := InB2 (hwf' e0 he0)
    rw [hk0] at hqg
    exact ⟨hqg ▸ hr, trivial⟩
  · unfold SortedLin lin
    rw [List.map_map]
    have : ((fun e : Idx × Int => ravel e.1 [R]) ∘ fun g : Nat × Int × Nat => ([g.1], φ g)) = (·.1) := by
      funext g
      simp [ravel, prod]
    rw [this]
    exact s1

theorem rowReduce_sel_get (op : RedOp) (hsup : op.super? = none) (le : Int → Int → Prop)
    (hsel : ∀ a b, op.ap a b = a ∨ op.ap a b = b) (hl : ∀ a b, le a (op.ap a b)) (hr : ∀ a b, le b (op.ap a b))
    (htrans : ∀ a b c, le a b → le b c → le a c) (hrefl : ∀ a, le a a)
    (a : COO Int) (R C : Nat) (hshape : a.shape = [R, C]) (hwf : a.WF)
    (hs : SortedLin a.shape a.entries) (hC : 0 < C) :
    (rowReduce op a a.fill).shape = [R] ∧ (rowReduce op a a.fill).fill = a.fill ∧
    ∀ i, (∀ c, c < C → le (a.get [i, c]) ((rowReduce op a a.fill).get [i])) ∧
         ∃ c, c < C ∧ a.get [i, c] = (rowReduce op a a.fill).get [i] := by
  have hwf' : ∀ e ∈ a.entries, InB e.1 [R, C] := fun e he => hshape ▸ hwf e he
  have hs' : SortedLin [R, C] a.entries := hshape ▸ hs
  have hnd := sortedLin_keys_nodup _ _ hs'
  rw [rowReduce_sel_eq op hsup]
  simp only [hshape, List.getD_cons_zero, List.getD_cons_succ, true_and]
  intro i
  simp only [COO.get]
  rw [lookup_rowRuns _ _ (rowList_sorted a.entries R C hwf' hs')]
  have hcases := get_row_cases a.entries R C hwf' hs' a.fill i
  have hatt := rowVals_attained a.entries R C hwf' hnd a.fill i
  by_cases hi : i ∈ (rowList a.entries).map (·.1)
  · obtain ⟨hM, hdom⟩ := foldl1_sel_spec op.ap le hsel hl hr htrans hrefl _ (rowVals_ne_nil hi)
    rw [if_pos hi]
    dsimp only
    by_cases hn : (rowVals (rowList a.entries) i).length ≠ C
    · rw [if_pos hn]
      constructor
      · intro c hc
        rcases hcases c hc with h | ⟨h, _⟩
        · exact htrans _ _ _ (hdom _ h) (hl _ _)
        · rw [h]; exact hr _ _
      · rcases hsel (foldl1 op.ap (rowVals (rowList a.entries) i)) a.fill with h | h
        · rw [h]; exact hatt _ hM
        · rw [h]; exact row_fill_attained a.entries R C hwf' hs' a.fill i hn
    · rw [if_neg hn]
      refine ⟨fun c hc => ?_, hatt _ hM⟩
      rcases hcases c hc with h | ⟨_, h⟩
      · exact hdom _ h
      · exact absurd h hn
  · rw [if_neg hi]
    have hall : ∀ c, c < C → lookup a.entries a.fill [i, c] = a.fill := by
      intro c hc
      rcases hcases c hc with h | ⟨h, _⟩
      · rw [rowVals_eq_nil hi] at h
        cases h
      · exact h
    exact ⟨fun c hc => by rw [hall c hc]; exact hrefl _, ⟨0, hC, hall 0 hC⟩⟩

end COO

theorem gather_invPerm_getD (p : List Nat) (hnd : p.Nodup) (hlt : ∀ a ∈ p, a < p.length) (v : List Nat)
    (m : Nat) (hm : m < p.length) : (COO.gather v (invPerm p)).getD (p[m]) 0 = v.getD m 0 := by
  have hk : p[m] < p.length := hlt _ (List.getElem_mem hm)
  rw [COO.gather_getD _ _ _ (by simpa [invPerm] using hk)]
  unfold invPerm
  rw [getD_map_range _ _ _ 0 hk, hnd.idxOf_getElem m hm]

namespace COO

theorem kept_axes_perm (n : Nat) (axes : List Nat) (hnd : axes.Nodup) (hr : ∀ a ∈ axes, a < n) :
    (((List.range n).filter fun a => !axes.contains a) ++ axes).Perm (List.range n) := by
  have h1 : axes.Perm ((List.range n).filter fun a => axes.contains a) := by
    rw [List.perm_ext_iff_of_nodup hnd (List.Nodup.sublist List.filter_sublist List.nodup_range)]
    intro a
    simp only [List.mem_filter, List.mem_range, List.contains_iff_mem]
    exact ⟨fun h => ⟨hr a h, h⟩, fun h => h.2⟩
  have h2 := List.filter_append_perm (fun a => axes.contains a) (List.range n)
  refine List.Perm.trans ?_ h2
  refine List.Perm.trans List.perm_append_comm ?_
  exact List.Perm.append h1 (by
    have : (fun a => !axes.contains a) = fun a => !(fun a => axes.contains a) a := rfl
    rw [this])

variable {α : Type}

theorem transposeCore_facts (x : COO α) (p : List Nat) (hp : p.Perm (List.range x.shape.length))
    (hwf : x.WF) (hs : SortedLin x.shape x.entries) :
    (x.transposeCore p).shape = gather x.shape p ∧ (x.transposeCore p).fill = x.fill ∧
    (x.transposeCore p).WF ∧ SortedLin (x.transposeCore p).shape (x.transposeCore p).entries := by
  have hsort := C08.transpose_canonical x p hp hwf (sortedLin_keys_nodup _ _ hs) fun _ => hs
  unfold transposeCore at hsort ⊢
  split
  next hid => exact ⟨by rw [hid, gather_range_self], rfl, hwf, hs⟩
  next hid =>
    rw [if_neg hid] at hsort
    refine ⟨rfl, rfl, fun e he => ?_, hsort⟩
    obtain ⟨e0, he0, rfl⟩ := List.mem_map.mp (mem_sortEntries.mp he)
    exact InB_gather (hwf e0 he0) fun a ha => List.mem_range.mp (hp.mem_iff.mp ha)

/-- the 2-D operand of `reduceCore`: kept axes first, then one row per kept index and one column per
reduced index -/
def reduceMat (x : COO Int) (kept axes : List Nat) : COO Int :=
  (x.transposeCore (kept ++ axes)).reshapeCore [prod (gather x.shape kept), prod (gather x.shape axes)]

theorem reduceMat_facts (x : COO Int) (kept axes : List Nat)
    (hp : (kept ++ axes).Perm (List.range x.shape.length)) (hwf : x.WF) (hs : SortedLin x.shape x.entries) :
    (reduceMat x kept axes).shape = [prod (gather x.shape kept), prod (gather x.shape axes)] ∧
    (reduceMat x kept axes).fill = x.fill ∧ (reduceMat x kept axes).WF ∧
    SortedLin (reduceMat x kept axes).shape (reduceMat x kept axes).entries ∧
    ∀ j c, InB j (gather x.shape kept) → c < prod (gather x.shape axes) →
      (reduceMat x kept axes).get [ravel j (gather x.shape kept), c]
        = x.get (gather (j ++ unravel c (gather x.shape axes)) (invPerm (kept ++ axes))) := by
  obtain ⟨hTs, hTf, hTwf, hTsort⟩ := transposeCore_facts x (kept ++ axes) hp hwf hs
  rw [gather_append] at hTs
  have hsize : prod (x.transposeCore (kept ++ axes)).shape =
      prod [prod (gather x.shape kept), prod (gather x.shape axes)] := by
    rw [hTs, prod_append]; simp [prod]
  obtain ⟨hAs, hAf, hAwf⟩ := reshapeCore_facts _ _ hTwf hsize
  refine ⟨hAs, hAf.trans hTf, hAwf, hAs ▸ reshapeCore_sorted _ _ hTwf hsize hTsort, fun j c hj hc => ?_⟩
  have hjl : j.length = (gather x.shape kept).length := InB_length hj
  have hin : InB (j ++ unravel c (gather x.shape axes)) (gather x.shape kept ++ gather x.shape axes) :=
    (InB_append _ _ _ _ hjl).mpr ⟨hj, unravel_InB _ c hc⟩
  have hlin := ravel_append j _ hjl (unravel c (gather x.shape axes)) (gather x.shape axes)
  rw [ravel_unravel _ c hc, ← ravel2 _ _ (prod (gather x.shape kept))] at hlin
  rw [reduceMat, (C08.reshape_get _ _ hTwf hsize _ (by simp [ravel_lt hj, hc])).1, hTs, ← hlin, unravel_ravel hin]
  exact (C08.transpose_get x _ hp hwf (sortedLin_keys_nodup _ _ hs) _ (by rw [gather_append]; exact hin)).1

/-- a row reduction reshaped to `s`: element `j` is the reduced row number `ravel j s` -/
theorem rowReduce_reshape (op : RedOp) (a : COO Int) (R C : Nat) (hshape : a.shape = [R, C]) (hwf : a.WF)
    (hs : SortedLin a.shape a.entries) (fill : Int) (s : List Nat) (hsize : prod s = R) :
    ((rowReduce op a fill).reshapeCore s).shape = s ∧
    ((rowReduce op a fill).reshapeCore s).fill = (rowReduce op a fill).fill ∧
    ((rowReduce op a fill).reshapeCore s).WF ∧ SortedLin s ((rowReduce op a fill).reshapeCore s).entries ∧
    ∀ j, InB j s → ((rowReduce op a fill).reshapeCore s).get j = (rowReduce op a fill).get [ravel j s] := by
  obtain ⟨hRs, hRwf, hRsort⟩ := rowReduce_facts op a R C hshape hwf hs fill
  have hsz : prod (rowReduce op a fill).shape = prod s := by rw [hRs, hsize]; simp [prod]
  obtain ⟨hOs, hOf, hOwf⟩ := reshapeCore_facts _ s hRwf hsz
  refine ⟨hOs, hOf, hOwf, reshapeCore_sorted _ s hRwf hsz (hRs ▸ hRsort), fun j hj => ?_⟩
  rw [(C08.reshape_get _ s hRwf hsz j hj).1, hRs]
  simp [unravel, prod]

/-- 0-d results become scalars -/
theorem redResult_of_shape (out : COO Int) (hwf : out.WF) (s kept : List Nat) (hshape : out.shape = gather s kept) :
    (if out.shape.length = 0 then
        (.ok (.scalar (match out.entries with | e :: _ => e.2 | [] => out.fill)) : Except Err RedResult)
      else .ok (.arr out)) = .ok (if kept = [] then .scalar (out.get []) else .arr out) := by
  have hlen : out.shape.length = 0 ↔ kept = [] := by rw [hshape, length_gather, List.length_eq_zero_iff]
  simp only [hlen]
  split
  next hk =>
    congr 2
    split
    next e rest hes => exact get_nil_of_cons _ hwf (by rw [hshape, hk]; rfl) hes
    next hes => rw [COO.get, hes]; rfl
  next => rfl

/-- the up-front test `op fill fill ≠ fill` without super ufunc never fires: `max`, `min` are idempotent -/
theorem reduce_admissible (op : RedOp) (f : Int) : ¬ (op.ap f f ≠ f ∧ op.super?.isNone) := by
  cases op <;> simp [RedOp.ap, RedOp.super?]

/-- `reduceCore` over distinct in-range axes of a canonical `x` is the row reduction of `reduceMat`,
reshaped to the kept extents (a scalar when nothing is kept) -/
theorem reduceCore_eq_out (op : RedOp) (x : COO Int) (axes : List Nat)
    (hguard : ¬ (op.super?.isNone ∧ axes.any (fun a => x.shape.getD a 0 == 0)))
    (hwf : x.WF) (hs : SortedLin x.shape x.entries) (kept : List Nat)
    (hkept : ((List.range x.shape.length).filter fun a => !axes.contains a) = kept)
    (hp : (kept ++ axes).Perm (List.range x.shape.length)) :
    COO.reduceCore op x (some axes) false =
      .ok (if kept = [] then
          .scalar (((rowReduce op (reduceMat x kept axes) x.fill).reshapeCore (gather x.shape kept)).get [])
        else .arr ((rowReduce op (reduceMat x kept axes) x.fill).reshapeCore (gather x.shape kept))) := by
  obtain ⟨hMs, _, hMwf, hMsort, _⟩ := reduceMat_facts x kept axes hp hwf hs
  obtain ⟨hOs, _, hOwf, _⟩ := rowReduce_reshape op _ _ _ hMs hMwf hMsort x.fill _ rfl
  rw [reduceCore_eq, if_neg (reduce_admissible op x.fill)]
  dsimp only
  rw [if_neg hguard]
  simp only [Bool.false_eq_true, if_false, hkept]
  exact redResult_of_shape _ hOwf _ _ hOs

/-- `max`/`min` over arbitrary axes: the lifted form of `rowReduce_sel_get` -/
theorem reduceCore_sel_get (op : RedOp) (hsup : op.super? = none) (le : Int → Int → Prop)
    (hsel : ∀ a b, op.ap a b = a ∨ op.ap a b = b) (hl : ∀ a b, le a (op.ap a b)) (hr' : ∀ a b, le b (op.ap a b))
    (htrans : ∀ a b c, le a b → le b c → le a c) (hrefl : ∀ a, le a a)
    (x : COO Int) (axes : List Nat)
    (hwf : x.WF) (hs : SortedLin x.shape x.entries) (hnd : axes.Nodup)
    (hr : ∀ a ∈ axes, a < x.shape.length) (hpos : 0 < prod (gather x.shape axes)) (kept : List Nat)
    (hkept : ((List.range x.shape.length).filter fun a => !axes.contains a) = kept) :
    ∃ out : COO Int,
      COO.reduceCore op x (some axes) false = .ok (if kept = [] then .scalar (out.get []) else .arr out) ∧
      out.shape = gather x.shape kept ∧ out.fill = x.fill ∧
      ∀ j, InB j (gather x.shape kept) →
        (∀ r ∈ allIdx (gather x.shape axes), le (x.get (gather (j ++ r) (invPerm (kept ++ axes)))) (out.get j)) ∧
        ∃ r ∈ allIdx (gather x.shape axes), x.get (gather (j ++ r) (invPerm (kept ++ axes))) = out.get j := by
  have hp : (kept ++ axes).Perm (List.range x.shape.length) := hkept ▸ kept_axes_perm _ axes hnd hr
  obtain ⟨hMs, hMf, hMwf, hMsort, hMget⟩ := reduceMat_facts x kept axes hp hwf hs
  obtain ⟨hOs, hOf, _, _, hOget⟩ := rowReduce_reshape op _ _ _ hMs hMwf hMsort x.fill _ rfl
  have hrow := rowReduce_sel_get op hsup le hsel hl hr' htrans hrefl _ _ _ hMs hMwf hMsort hpos
  rw [hMf] at hrow
  refine ⟨_, reduceCore_eq_out op x axes
    (fun h => by rw [(prod_gather_pos_iff _ _).mp hpos] at h; exact Bool.false_ne_true h.2) hwf hs kept hkept hp,
    hOs, hOf.trans hrow.2.1, fun j hj => ?_⟩
  obtain ⟨hb, c, hc, hatt⟩ := hrow.2.2 (ravel j (gather x.shape kept))
  rw [hOget j hj, allIdx_eq]
  refine ⟨List.forall_mem_map.mpr fun c hc => ?_, _, List.mem_map_of_mem (List.mem_range.mpr hc), ?_⟩
  · exact hMget j c hj (List.mem_range.mp hc) ▸ hb c (List.mem_range.mp hc)
  · exact (hMget j c hj hc).symm.trans hatt

end COO

end SparseV
