/-
  SparseV.Lemmas.Cost — size facts of the model operations used by the cost bounds (property C16):
  the shape operations keep the number of stored entries, and a single extent is at most Σ shape.
-/
import SparseV.Model.Cost
namespace SparseV

theorem getD_le_lsum : ∀ (s : List Nat) (c : Nat), s.getD c 0 ≤ lsum s
  | [], _ => Nat.le_refl 0
  | d :: _, 0 => Nat.le_add_right d _
  | _ :: ds, c + 1 => Nat.le_trans (getD_le_lsum ds c) (Nat.le_add_left ..)

namespace COO
variable {α : Type}

/-- `cells` with the product distributed, the form in which the costs are written -/
theorem cells_eq (x : COO α) : x.cells = x.shape.length * x.nnz + x.nnz := by
  rw [cells, Nat.add_mul, Nat.one_mul]

@[simp] theorem mapIdx_length (f : Idx → Idx) (es : List (Idx × α)) : (mapIdx f es).length = es.length := by
  simp [mapIdx]

@[simp] theorem sortEntries_length (shape : List Nat) (es : List (Idx × α)) : (sortEntries shape es).length = es.length := by
  simp [sortEntries, List.length_mergeSort]

theorem transposeCore_nnz (x : COO α) (axes : List Nat) : (x.transposeCore axes).nnz = x.nnz := by
  unfold transposeCore nnz
  split <;> simp

theorem transposeCore_ndim (x : COO α) (axes : List Nat) (h : axes.length = x.shape.length) :
    (x.transposeCore axes).shape.length = x.shape.length := by
  unfold transposeCore
  split <;> simp [gather, h]

theorem reshapeCore_nnz (x : COO α) (s : List Nat) : (x.reshapeCore s).nnz = x.nnz := by
  unfold reshapeCore nnz
  split <;> simp

theorem reshapeCore_shape (x : COO α) (s : List Nat) : (x.reshapeCore s).shape = s := by
  unfold reshapeCore
  split <;> simp_all

theorem squeezeCore_nnz (x : COO α) (axes : List Nat) : (x.squeezeCore axes).nnz = x.nnz := by
  simp [squeezeCore, nnz]

theorem expandDimsCore_nnz (x : COO α) (p : Nat) : (x.expandDimsCore p).nnz = x.nnz := by
  simp [expandDimsCore, nnz]

theorem insertAt_length (l : List Nat) (p v : Nat) : (insertAt l p v).length = l.length + 1 := by
  rw [insertAt, List.length_append, List.length_cons, ← Nat.add_assoc, ← List.length_append, List.take_append_drop]

end COO
end SparseV
