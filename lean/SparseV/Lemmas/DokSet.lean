/-
  SparseV.Lemmas.DokSet — the recursion of `DOK._setitem` against the dense specification:
  assignment over a selection (`assignAt`), the loop lemma, the main refinement lemma `setRec_spec`
  for any value the recursion descends without raising (`Desc`), and NumPy broadcasting
  (`Spec.bcastGet`) as such a descent.
-/
import SparseV.Lemmas.Dok
import SparseV.Lemmas.Index
namespace SparseV
namespace Dok
open Spec
variable {α : Type}

/-- the dense array `a` after the element at every selected index tuple has been replaced by the
value `val` gives for its grid position -/
def assignAt (a : Dense α) (sels : List Sel) (val : List Nat → Option α) : Dense α := fun k =>
  match posOf sels k with
  | some p => (val p).getD (a k)
  | none => a k

theorem assignAt_ne {a : Dense α} {sels : List Sel} {val : List Nat → Option α} {k : DKey}
    (h : assignAt a sels val k ≠ a k) : ∃ p, posOf sels k = some p := by
  unfold assignAt at h
  cases hp : posOf sels k with
  | none => rw [hp] at h; exact absurd rfl h
  | some p => exact ⟨p, rfl⟩

theorem ints_snoc (pre : DKey) (n : Int) (ss : List Sel) :
    (pre ++ [n]).map Sel.int ++ ss = pre.map Sel.int ++ .int n :: ss := by
  rw [List.map_append, List.append_assoc]
  rfl

theorem posOf_ints (pre k : DKey) : posOf (pre.map Sel.int) k = if k = pre then some [] else none := by
  induction pre generalizing k with
  | nil => cases k <;> rfl
  | cons p ps ih =>
    cases k with
    | nil => rfl
    | cons i is =>
      simp only [List.map_cons, posOf, ih, List.cons.injEq]
      by_cases h : p = i
      · simp only [h, if_true, true_and]
      · rw [if_neg h, if_neg (fun hh => h hh.1.symm)]

/-- leading integers only strip the matching prefix of the key -/
theorem posOf_ints_append (pre k : DKey) :
    (∀ ss, posOf (pre.map Sel.int ++ ss) k = none) ∨ ∃ k', ∀ ss, posOf (pre.map Sel.int ++ ss) k = posOf ss k' := by
  induction pre generalizing k with
  | nil => exact Or.inr ⟨k, fun _ => rfl⟩
  | cons p ps ih =>
    cases k with
    | nil => exact Or.inl fun _ => rfl
    | cons i is =>
      by_cases h : p = i
      · subst h
        exact (ih is).imp (fun h' ss => (if_pos rfl).trans (h' ss))
          fun ⟨k', h'⟩ => ⟨k', fun ss => (if_pos rfl).trans (h' ss)⟩
      · exact Or.inl fun ss => if_neg h

theorem findPos_none_of_not_mem {xs : List Int} {i : Int} (h : i ∉ xs) : findPos xs i = none := by
  induction xs with
  | nil => rfl
  | cons x xs ih =>
    rw [List.mem_cons, not_or] at h
    rw [findPos, if_neg (Ne.symm h.1), ih h.2]
    rfl

def shiftHead (i0 : Nat) : List Nat → List Nat
  | j :: p => (i0 + j) :: p
  | [] => []

theorem shiftHead_zero (q : List Nat) : shiftHead 0 q = q := by
  cases q <;> simp [shiftHead]

theorem shiftHead_succ (i0 : Nat) (q : List Nat) : shiftHead (i0 + 1) q = shiftHead i0 (shiftHead 1 q) := by
  cases q with
  | nil => rfl
  | cons j p => simp only [shiftHead, Nat.add_assoc]

theorem posOf_range_cons {x : Int} {xs : List Int} (hx : x ∉ xs) (ss : List Sel) (k : DKey) :
    (posOf (.int x :: ss) k = none ∧
      posOf (.range (x :: xs) :: ss) k = (posOf (.range xs :: ss) k).map (shiftHead 1)) ∨
    ∃ p, posOf (.int x :: ss) k = some p ∧ posOf (.range xs :: ss) k = none ∧
      posOf (.range (x :: xs) :: ss) k = some (0 :: p) := by
  cases k with
  | nil => exact Or.inl ⟨rfl, rfl⟩
  | cons i is =>
    simp only [posOf, findPos]
    by_cases hxi : x = i
    · subst hxi
      simp only [if_true, findPos_none_of_not_mem hx]
      cases posOf ss is <;> simp
    · simp only [hxi, if_false, true_and]
      cases findPos xs i with
      | none => exact Or.inl rfl
      | some j => cases posOf ss is <;> simp [shiftHead, Nat.add_comm]

theorem loopS_cons_ok {σ : Type} (f : Int → Nat → σ → σ × Option Err) (k : Int) (ks : List Int) (i : Nat) (s : σ)
    (h : (f k i s).2 = none) : loopS f (k :: ks) i s = loopS f ks (i + 1) (f k i s).1 := by
  rw [loopS]
  split
  · next s' e he => rw [he] at h; cases h
  · next s' he => rw [he]

/-- **the loop over a slice**: from the body run for index `x` as the `vidx`-th iteration to the loop over
distinct indices `ks`, counting from `i0` (the first grid coordinate moved by `i0`). -/
theorem loopS_spec (fill : α) (pre : DKey) (ssr : List Sel) (val : List Nat → Option α)
    (f : Int → Nat → List (DKey × α) → Res α) (bound : Nat)
    (hf : ∀ x vidx es, vidx < bound → (f x vidx es).2 = none ∧
      alookup (f x vidx es).1 fill =
        assignAt (alookup es fill) (pre.map Sel.int ++ .int x :: ssr) fun p => val (vidx :: p)) :
    ∀ (ks : List Int) (i0 : Nat) (es : List (DKey × α)), ks.Nodup → i0 + ks.length ≤ bound →
      (loopS f ks i0 es).2 = none ∧
      alookup (loopS f ks i0 es).1 fill =
        assignAt (alookup es fill) (pre.map Sel.int ++ .range ks :: ssr) fun q => val (shiftHead i0 q) := by
  intro ks
  induction ks with
  | nil =>
    intro i0 es _ _
    refine ⟨rfl, funext fun k => ?_⟩
    rcases posOf_ints_append pre k with h | ⟨k', h⟩
    · simp only [assignAt, h]
      rfl
    · simp only [assignAt, h]
      cases k' <;> rfl
  | cons x xs ih =>
    intro i0 es hnd hb
    obtain ⟨hx, hnd'⟩ := List.nodup_cons.mp hnd
    rw [List.length_cons] at hb
    obtain ⟨h0, h1⟩ := hf x i0 es (Nat.lt_of_lt_of_le (Nat.lt_add_of_pos_right (Nat.succ_pos _)) hb)
    rw [loopS_cons_ok f x xs i0 es h0]
    obtain ⟨ih0, ih1⟩ := ih (i0 + 1) (f x i0 es).1 hnd' (by rwa [Nat.add_assoc, Nat.add_comm 1])
    refine ⟨ih0, funext fun k => ?_⟩
    rw [ih1, h1]
    rcases posOf_ints_append pre k with h | ⟨k', h⟩
    · simp only [assignAt, h]
    · rcases posOf_range_cons hx ssr k' with ⟨hA, hC⟩ | ⟨p, hA, hB, hC⟩
      · simp only [assignAt, h, hA, hC]
        cases posOf (.range xs :: ssr) k' with
        | none => rfl
        | some q => exact congrArg (fun q => (val q).getD _) (shiftHead_succ i0 q)
      · simp only [assignAt, h, hA, hB, hC]
        rfl

/-- the value `_setitem` recurses with at a slice that `n` slices follow: `value` itself while it has
fewer axes than there are slices left, else `value[0]` / `value[v_idx]` -/
def next (v : Val α) (n vidx : Nat) : Except Err (Val α) :=
  if v.shape.length < n + 1 then .ok v else v.pick vidx

/-- the recursion of `_setitem` does not raise on `v` along a grid of these extents, and the element it
stores at grid position `p` is `val p` -/
def Desc : Val α → List Nat → (List Nat → Option α) → Prop
  | v, [], val => v.shape = [] ∧ ∃ x xs, v.flat = x :: xs ∧ val [] = some x
  | v, g :: gs, val =>
    v.shape.length ≤ gs.length + 1 ∧
      ∀ j, j < g → ∃ vi, next v gs.length j = .ok vi ∧ Desc vi gs fun p => val (j :: p)

def selOf : NPart → Sel
  | .int n => .int n
  | .slice a b c => .range (rangeOf (a, b, c))

/-- what a normalised key selects (bounds of the slices as normalised) -/
def nkSels (nk : List (NPart × Int)) : List Sel := nk.map fun x => selOf x.1

theorem nkSels_cons (x : NPart × Int) (xs : List (NPart × Int)) : nkSels (x :: xs) = selOf x.1 :: nkSels xs := rfl

/-- the bounds function visits exactly the indices of every normalised slice (and its step is not 0) -/
def BoundsOKAll (bounds : Option Int → Option Int → Option Int → Int → Int × Int × Int) :
    List (NPart × Int) → Prop
  | [] => True
  | (.int _, _) :: r => BoundsOKAll bounds r
  | (.slice a b c, dim) :: r =>
    ((bounds (some a) (some b) (some c) dim).2.2 ≠ 0 ∧
      rangeOf (bounds (some a) (some b) (some c) dim) = rangeOf (a, b, c)) ∧ BoundsOKAll bounds r

theorem nSlices_eq : ∀ (nk : List (NPart × Int)), nSlices nk = (gridShape (nkSels nk)).length
  | [] => rfl
  | (.int _, _) :: r => nSlices_eq r
  | (.slice _ _ _, _) :: r => congrArg (· + 1) (nSlices_eq r)

/-- **the recursion of `_setitem` is assignment over the selection**, for every bounds function that
visits the indices of the normalised slices and every value the recursion can descend without raising. -/
theorem setRec_spec [DecidableEq α]
    (bounds : Option Int → Option Int → Option Int → Int → Int × Int × Int) (fill : α) :
    ∀ (nk : List (NPart × Int)) (pre : DKey) (v : Val α) (val : List Nat → Option α) (es : List (DKey × α)),
      BoundsOKAll bounds nk → Desc v (gridShape (nkSels nk)) val →
      (setRec bounds fill nk pre v es).2 = none ∧
      alookup (setRec bounds fill nk pre v es).1 fill =
        assignAt (alookup es fill) (pre.map Sel.int ++ nkSels nk) val := by
  intro nk
  induction nk with
  | nil =>
    intro pre v val es _ hd
    obtain ⟨hs, x, xs, hfl, hval⟩ := hd
    simp only [setRec, hs, List.length_nil, Nat.lt_irrefl, if_false, hfl]
    refine ⟨trivial, funext fun k => ?_⟩
    simp only [alookup_store, assignAt, nkSels, List.map_nil, List.append_nil, posOf_ints]
    split
    · simp only [hval, Option.getD_some]
    · rfl
  | cons hd rest ih =>
    intro pre v val es hb hdesc
    obtain ⟨part, dim⟩ := hd
    cases part with
    | int n =>
      simp only [setRec, nkSels_cons, selOf]
      rw [← ints_snoc]
      exact ih (pre ++ [n]) v val es hb hdesc
    | slice a b c =>
      obtain ⟨⟨hstep, hrange⟩, hbr⟩ := hb
      rw [nkSels_cons] at hdesc
      obtain ⟨hrank, hnext⟩ := hdesc
      have hns := nSlices_eq rest
      have hnot : ¬ nSlices rest + 1 < v.shape.length := hns ▸ Nat.not_lt.mpr hrank
      simp only [setRec, hnot, if_false, hstep, hrange, nkSels_cons, selOf]
      have hloop := fun f hf => loopS_spec fill pre (nkSels rest) val f (rangeOf (a, b, c)).length hf
        (rangeOf (a, b, c)) 0 es (nodup_rangeOf _) (Nat.le_of_eq (Nat.zero_add _))
      simp only [shiftHead_zero] at hloop
      refine hloop _ fun x vidx es' hv => ?_
      obtain ⟨vi, hvi, hD⟩ := hnext vidx hv
      rw [next, ← hns] at hvi
      rw [← ints_snoc]
      split at hvi
      · next hlt =>
        cases hvi
        simp only [hlt, if_true]
        exact ih (pre ++ [x]) v _ es' hbr hD
      · next hlt =>
        simp only [hlt, if_false, hvi]
        exact ih (pre ++ [x]) vi _ es' hbr hD

/-- the index `bcastGet` reads at (extents of 1 are repeated) lies inside the value -/
theorem clamp_InB (ss gs p : List Nat) (ha : alignedOK ss gs = true) (hp : InB p gs) :
    InB (List.zipWith (fun s i => if s = 1 then 0 else i) ss p) ss := by
  induction ss generalizing gs p with
  | nil =>
    cases gs with
    | nil => cases p with
      | nil => trivial
      | cons _ _ => exact hp.elim
    | cons _ _ => cases ha
  | cons s ss ih =>
    cases gs with
    | nil => cases ha
    | cons g gs =>
      cases p with
      | nil => exact hp.elim
      | cons j p =>
        simp only [alignedOK, Bool.and_eq_true, Bool.or_eq_true, beq_iff_eq] at ha
        refine ⟨?_, ih gs p ha.2 hp.2⟩
        have := hp.1
        show (if s = 1 then 0 else j) < s
        split <;> omega
theorem sub_flat_length (v : Val α) (s : Nat) (ss : List Nat) (i : Nat) (hs : v.shape = s :: ss)
    (hl : v.flat.length = prod v.shape) (hi : i < s) : (v.sub i).flat.length = prod (v.sub i).shape := by
  simp only [Val.sub, hs, List.tail_cons, List.length_take, List.length_drop, hl, prod]
  have h1 : (i + 1) * prod ss ≤ s * prod ss := Nat.mul_le_mul_right _ hi
  rw [Nat.add_mul, Nat.one_mul] at h1
  omega

theorem bcastGet_cons_lt (v : Val α) (j : Nat) (p : List Nat) (h : v.shape.length < p.length + 1) :
    bcastGet v (j :: p) = bcastGet v p := by
  simp only [bcastGet, List.length_cons]
  rw [Nat.succ_sub (Nat.le_of_lt_succ h), List.drop_succ_cons]

/-- a value with as many axes as the grid: the first coordinate chooses `value[0]` / `value[j]` -/
theorem bcastGet_cons_sub (v : Val α) (s : Nat) (ss : List Nat) (hs : v.shape = s :: ss) (j : Nat) (p : List Nat)
    (hl : p.length = ss.length) (hin : InB (List.zipWith (fun s i => if s = 1 then 0 else i) ss p) ss) :
    bcastGet v (j :: p) = bcastGet (v.sub (if s = 1 then 0 else j)) p := by
  simp only [bcastGet, Val.sub, hs, List.tail_cons, List.length_cons, hl, Nat.sub_self, List.drop_zero,
    List.zipWith_cons_cons, ravel]
  rw [List.getElem?_take_of_lt (ravel_lt hin), List.getElem?_drop]

/-- **descent = broadcasting**: at every grid position the recursion stores the element of
`np.broadcast_to(value, grid)` at that position. -/
theorem bcast_desc : ∀ (grid : List Nat) (v : Val α) (val : List Nat → Option α), v.flat.length = prod v.shape →
    v.shape.length ≤ grid.length → alignedOK v.shape (grid.drop (grid.length - v.shape.length)) = true →
    (∀ p, InB p grid → val p = bcastGet v p) → Desc v grid val := by
  intro grid
  induction grid with
  | nil =>
    intro v val hl hle _ hval
    have hs : v.shape = [] := List.eq_nil_of_length_eq_zero (Nat.le_zero.mp hle)
    rw [hs] at hl
    cases hf : v.flat with
    | nil => rw [hf] at hl; cases hl
    | cons x xs =>
      refine ⟨hs, x, xs, hf, ?_⟩
      rw [hval [] trivial]
      simp only [bcastGet, hs, hf, ravel, List.zipWith_nil_left, List.getElem?_cons_zero]
  | cons g gs ih =>
    intro v val hl hle ha hval
    rw [List.length_cons] at hle ha
    refine ⟨hle, fun j hj => ?_⟩
    by_cases hlt : v.shape.length < gs.length + 1
    · rw [Nat.succ_sub (Nat.le_of_lt_succ hlt), List.drop_succ_cons] at ha
      refine ⟨v, if_pos hlt, ih v _ hl (Nat.le_of_lt_succ hlt) ha fun p hp => ?_⟩
      rw [hval (j :: p) ⟨hj, hp⟩, bcastGet_cons_lt v j p (InB_length hp ▸ hlt)]
    · cases hs : v.shape with
      | nil => rw [hs] at hlt; exact absurd (Nat.succ_pos _) hlt
      | cons s ss =>
        rw [hs, List.length_cons] at hle hlt ha
        have hss : ss.length = gs.length := Nat.succ.inj (Nat.le_antisymm hle (Nat.le_of_not_lt hlt))
        rw [hss, Nat.sub_self, List.drop_zero] at ha
        simp only [alignedOK, Bool.and_eq_true, Bool.or_eq_true, beq_iff_eq] at ha
        have hi : (if s = 1 then 0 else j) < s := by split <;> omega
        have hpk : v.pick j = .ok (v.sub (if s = 1 then 0 else j)) := by
          simp only [Val.pick, hs]
          split
          · rfl
          · next h1 => rw [if_neg h1] at hi; exact if_pos hi
        refine ⟨_, (if_neg (by rw [hs]; exact hlt)).trans hpk,
          ih _ _ (sub_flat_length v s ss _ hs hl hi) ?_ ?_ fun p hp => ?_⟩
        · simp only [Val.sub, hs, List.tail_cons, hss, Nat.le_refl]
        · simp only [Val.sub, hs, List.tail_cons, hss, Nat.sub_self, List.drop_zero, ha.2]
        · rw [hval (j :: p) ⟨hj, hp⟩]
          exact bcastGet_cons_sub v s ss hs j p ((InB_length hp).trans hss.symm) (clamp_InB ss gs p ha.2 hp)

theorem desc_of_broadcastable {v : Val α} {grid : List Nat} (h : Broadcastable v grid = true) :
    Desc v grid (bcastGet v) := by
  simp only [Broadcastable, Bool.and_eq_true, beq_iff_eq, decide_eq_true_eq] at h
  exact bcast_desc grid v _ h.1.1 h.1.2 h.2 fun _ _ => rfl

end Dok
end SparseV
