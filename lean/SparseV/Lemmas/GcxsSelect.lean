/-
  SparseV.Lemmas.GcxsSelect — functional correctness of the two GCXS selection kernels on one row:
  `get_array_selection` (one binary search per requested column) and `get_slicing_selection` (the two
  `while` loops of `SparseV.Loops`) both compute `matchSpec row col` — for every position `c` of `col`
  whose column number occurs in the row, the pair (position in the row, `c`), in increasing `c`;
  `get_single_element`'s search in a row is the case of one requested column.
-/
import SparseV.Lemmas.GcxsRows
import SparseV.Lemmas.Loops
namespace SparseV
open COO
namespace GIx

def matchSpec (row : List Nat) : Nat → List Nat → List (Nat × Nat)
  | _, [] => []
  | c, v :: vs => if v ∈ row then (row.idxOf v, c) :: matchSpec row (c + 1) vs else matchSpec row (c + 1) vs

theorem matchSpec_nil (row : List Nat) : ∀ (c : Nat) (vs : List Nat), (∀ v ∈ vs, v ∉ row) → matchSpec row c vs = []
  | _, [], _ => rfl
  | c, v :: vs, h => by
    rw [matchSpec, if_neg (h v List.mem_cons_self)]
    exact matchSpec_nil row (c + 1) vs (fun w hw => h w (List.mem_cons_of_mem _ hw))

theorem sorted_le {l : List Nat} (hp : l.Pairwise (· < ·)) {i j : Nat} (hi : i < l.length) (hj : j < l.length)
    (hij : i ≤ j) : l[i] ≤ l[j] := by
  rcases Nat.lt_or_eq_of_le hij with h | h
  · exact Nat.le_of_lt (List.pairwise_iff_getElem.mp hp i j hi hj h)
  · subst h; exact Nat.le_refl _

theorem sorted_lt {l : List Nat} (hp : l.Pairwise (· < ·)) {i j : Nat} (hi : i < l.length) (hj : j < l.length)
    (hij : i < j) : l[i] < l[j] := List.pairwise_iff_getElem.mp hp i j hi hj hij

theorem idxOf_getElem_sorted {l : List Nat} (hp : l.Pairwise (· < ·)) {i : Nat} (hi : i < l.length) :
    l.idxOf l[i] = i :=
  List.Nodup.idxOf_getElem (hp.imp Nat.ne_of_lt) i hi

theorem getLast?_getElem {l : List Nat} (h : 0 < l.length) : l.getLast? = some (l[l.length - 1]) := by
  rw [List.getLast?_eq_getElem?, List.getElem?_eq_getElem]

theorem searchsorted_props : ∀ (l : List Nat) (v : Nat),
    (∀ j (hj : j < l.length), j < Loops.searchsorted l v → l[j] < v) ∧
    (∀ (ht : Loops.searchsorted l v < l.length), ¬ l[Loops.searchsorted l v] < v)
  | [], v => by simp [Loops.searchsorted]
  | a :: l, v => by
    obtain ⟨h2, h3⟩ := searchsorted_props l v
    unfold Loops.searchsorted at h2 h3 ⊢
    rw [List.takeWhile_cons]
    by_cases hav : a < v
    · simp only [decide_eq_true_eq, hav, if_true, List.length_cons]
      refine ⟨?_, ?_⟩
      · intro j hj hjt
        cases j with
        | zero => exact hav
        | succ j => exact h2 j (Nat.lt_of_succ_lt_succ hj) (Nat.lt_of_succ_lt_succ hjt)
      · intro ht
        exact h3 (Nat.lt_of_succ_lt_succ ht)
    · simp only [decide_eq_true_eq, hav, if_false, List.length_nil]
      exact ⟨fun j _ hj => absurd hj (Nat.not_lt_zero _), fun _ => hav⟩

theorem searchsorted_of_mem (row : List Nat) (v : Nat) (hp : row.Pairwise (· < ·)) (h : v ∈ row) :
    Loops.searchsorted row v = row.idxOf v := by
  obtain ⟨h1, h2⟩ := searchsorted_props row v
  have hi := List.idxOf_lt_length_of_mem h
  have he : row[row.idxOf v] = v := List.getElem_idxOf hi
  rcases Nat.lt_trichotomy (Loops.searchsorted row v) (row.idxOf v) with hlt | heq | hgt
  · have := sorted_lt hp (Nat.lt_trans hlt hi) hi hlt
    rw [he] at this
    exact absurd this (h2 (Nat.lt_trans hlt hi))
  · exact heq
  · have := h1 _ hi hgt
    rw [he] at this
    exact absurd this (Nat.lt_irrefl v)

/-- the test `not (s >= row.size or row[s] != v)` of both kernels succeeds exactly when `v` is in the row -/
theorem hit_iff_mem (row : List Nat) (v : Nat) (hp : row.Pairwise (· < ·)) :
    (Loops.searchsorted row v < row.length ∧ row.getD (Loops.searchsorted row v) 0 = v) ↔ v ∈ row := by
  constructor
  · rintro ⟨h1, h2⟩
    rw [← h2]; exact getD_mem _ _ _ h1
  · intro h
    rw [searchsorted_of_mem row v hp h]
    have hl := List.idxOf_lt_length_of_mem h
    exact ⟨hl, (getD_of_lt _ _ _ hl).trans (List.getElem_idxOf hl)⟩

theorem arrayRowAux_eq (row : List Nat) (hp : row.Pairwise (· < ·)) : ∀ (c : Nat) (col : List Nat),
    arrayRowAux row c col = matchSpec row c col
  | _, [] => rfl
  | c, v :: vs => by
    unfold arrayRowAux matchSpec
    simp only []
    by_cases h : v ∈ row
    · rw [if_pos ((hit_iff_mem row v hp).mpr h), if_pos h, searchsorted_of_mem row v hp h, arrayRowAux_eq row hp]
    · rw [if_neg (fun hh => h ((hit_iff_mem row v hp).mp hh)), if_neg h, arrayRowAux_eq row hp]

theorem arrayRow_eq (row col : List Nat) (hp : row.Pairwise (· < ·)) : arrayRow row col = matchSpec row 0 col := by
  unfold arrayRow
  split
  · rename_i h
    have : row = [] := List.length_eq_zero_iff.mp h
    subst this
    exact (matchSpec_nil [] 0 col (fun v _ => by simp)).symm
  · exact arrayRowAux_eq row hp 0 col

section cursors
variable {row col : List Nat} {n k : Nat}

theorem matchSpec_drop (row : List Nat) (hk : k < col.length) :
    matchSpec row k (col.drop k) =
      if col[k] ∈ row then (row.idxOf col[k], k) :: matchSpec row (k + 1) (col.drop (k + 1))
      else matchSpec row (k + 1) (col.drop (k + 1)) := by
  rw [List.drop_eq_getElem_cons hk]; rfl

theorem matchSpec_hit (hrow : row.Pairwise (· < ·)) (hk : k < col.length) (hn : n < row.length)
    (he : row[n] = col[k]) :
    matchSpec row k (col.drop k) = (n, k) :: matchSpec row (k + 1) (col.drop (k + 1)) := by
  rw [matchSpec_drop row hk, if_pos (he ▸ List.getElem_mem hn), ← he, idxOf_getElem_sorted hrow hn]

theorem matchSpec_miss (hk : k < col.length) (h : col[k] ∉ row) :
    matchSpec row k (col.drop k) = matchSpec row (k + 1) (col.drop (k + 1)) := by
  rw [matchSpec_drop row hk, if_neg h]

/-- The invariant: every row entry before the row cursor `n` is smaller than the requested column at the column
cursor `k` (hence, `col` being increasing, than all later ones), so no match has been passed over. -/
def Below (row col : List Nat) (n k : Nat) : Prop :=
  ∀ p (hp : p < row.length) (hk : k < col.length), p < n → row[p] < col[k]

theorem Below.mono (hcol : col.Pairwise (· < ·)) (h : Below row col n k) {k' : Nat} (hkk : k ≤ k') :
    Below row col n k' := fun p hp hk' hpn =>
  Nat.lt_of_lt_of_le (h p hp (by omega) hpn) (sorted_le hcol (by omega) hk' hkk)

theorem Below.succ (h : Below row col n k) (hlt : ∀ (hn : n < row.length) (hk : k < col.length), row[n] < col[k]) :
    Below row col (n + 1) k := fun p hp hk hpn => by
  rcases Nat.lt_or_eq_of_le (Nat.le_of_lt_succ hpn) with h1 | h1
  · exact h p hp hk h1
  · subst h1; exact hlt hp hk

theorem Below.succ_succ (hcol : col.Pairwise (· < ·)) (h : Below row col n k) (hk : k < col.length)
    (hle : ∀ hn : n < row.length, row[n] ≤ col[k]) : Below row col (n + 1) (k + 1) :=
  (h.mono hcol (Nat.le_succ k)).succ fun hn hk' =>
    Nat.lt_of_le_of_lt (hle hn) (sorted_lt hcol hk hk' (Nat.lt_succ_self k))

theorem Below.zero : Below row col 0 k := fun _ _ _ h => absurd h (Nat.not_lt_zero _)

theorem Below.of_last_lt (hrow : row.Pairwise (· < ·)) (hl : row.length - 1 < row.length) (hk : k < col.length)
    (h : row[row.length - 1] < col[k]) : Below row col row.length k := fun _ hp _ _ =>
  Nat.lt_of_le_of_lt (sorted_le hrow hp hl (Nat.le_sub_one_of_lt hp)) h

theorem Below.not_mem (hrow : row.Pairwise (· < ·)) (h : Below row col n k) (hk : k < col.length)
    (hgt : ∀ hn : n < row.length, col[k] < row[n]) : col[k] ∉ row := by
  intro hmem
  obtain ⟨p, hp, he⟩ := List.mem_iff_getElem.mp hmem
  by_cases hpn : p < n
  · have := h p hp hk hpn
    omega
  · have hn : n < row.length := by omega
    have := sorted_le hrow hn hp (by omega)
    have := hgt hn
    omega

theorem Below.rest_nil (hrow : row.Pairwise (· < ·)) (hcol : col.Pairwise (· < ·)) (h : Below row col n k)
    (hgt : ∀ (hn : n < row.length) (_ : k < col.length) (hl : col.length - 1 < col.length),
      col[col.length - 1] < row[n]) :
    matchSpec row k (col.drop k) = [] := by
  apply matchSpec_nil
  intro v hv
  obtain ⟨j, hj, rfl⟩ := List.mem_iff_getElem.mp hv
  rw [List.length_drop] at hj
  have hc : k + j < col.length := Nat.add_lt_of_lt_sub' hj
  have hk : k < col.length := Nat.lt_of_le_of_lt (Nat.le_add_right k j) hc
  have hl : col.length - 1 < col.length := Nat.sub_one_lt_of_lt hc
  rw [List.getElem_drop]
  exact (h.mono hcol (Nat.le_add_right k j)).not_mem hrow hc fun hn =>
    Nat.lt_of_le_of_lt (sorted_le hcol hc hl (Nat.le_sub_one_of_lt hc)) (hgt hn hk hl)

end cursors

theorem budget_step {R n K k fuel : Nat} (hf : R - n + (K - k) < fuel + 1) (hn : n < R) (hk : k < K) :
    R - (n + 1) + (K - k) < fuel ∧ R - n + (K - (k + 1)) < fuel ∧ R - (n + 1) + (K - (k + 1)) < fuel := by omega

theorem linLoop_eq (row col : List Nat) (hrow : row.Pairwise (· < ·)) (hcol : col.Pairwise (· < ·)) :
    ∀ (fuel n k : Nat) (acc : List (Nat × Nat)), (row.length - n) + (col.length - k) < fuel → Below row col n k →
      Loops.linLoop row col fuel n k acc = .done (acc.reverse ++ matchSpec row k (col.drop k))
  | 0, _, _, _, h, _ => by omega
  | fuel + 1, n, k, acc, hf, hinv => by
    unfold Loops.linLoop
    by_cases hc : k < col.length ∧ n < row.length
    · obtain ⟨hk, hn⟩ := hc
      obtain ⟨hfn, hfk, hfnk⟩ := budget_step hf hn hk
      have hrl : row.length - 1 < row.length := Nat.sub_one_lt_of_lt hn
      have hcl : col.length - 1 < col.length := Nat.sub_one_lt_of_lt hk
      rw [if_pos ⟨hk, hn⟩, getLast?_getElem (Nat.zero_lt_of_lt hn), getLast?_getElem (Nat.zero_lt_of_lt hk),
        List.getElem?_eq_getElem hn, List.getElem?_eq_getElem hk]
      simp only []
      by_cases hbrk : row[row.length - 1] < col[k] ∨ row[n] > col[col.length - 1]
      · have : matchSpec row k (col.drop k) = [] := by
          rcases hbrk with hb | hb
          · exact (Below.of_last_lt hrow hrl hk hb).rest_nil hrow hcol fun hn' => absurd hn' (Nat.lt_irrefl _)
          · exact hinv.rest_nil hrow hcol fun _ _ _ => hb
        rw [if_pos hbrk, this, List.append_nil]
      · rw [if_neg hbrk]
        by_cases heq : row[n] = col[k]
        · rw [if_pos heq, linLoop_eq row col hrow hcol fuel (n + 1) (k + 1) _ hfnk
            (hinv.succ_succ hcol hk fun _ => Nat.le_of_eq heq), matchSpec_hit hrow hk hn heq,
            List.reverse_cons, List.append_assoc, List.singleton_append]
        · rw [if_neg heq]
          by_cases hlt : row[n] < col[k]
          · rw [if_pos hlt, linLoop_eq row col hrow hcol fuel (n + 1) k _ hfn (hinv.succ fun _ _ => hlt)]
          · have hgt : col[k] < row[n] := Nat.lt_of_le_of_ne (Nat.le_of_not_lt hlt) (Ne.symm heq)
            rw [if_neg hlt, linLoop_eq row col hrow hcol fuel n (k + 1) _ hfk (hinv.mono hcol (Nat.le_succ k)),
              matchSpec_miss hk (hinv.not_mem hrow hk fun _ => hgt)]
    · rw [if_neg hc, hinv.rest_nil hrow hcol fun hn hk _ => absurd ⟨hk, hn⟩ hc, List.append_nil]

theorem Below.searchsorted {row col : List Nat} {n k : Nat} (h : Below row col n k) (hk : k < col.length) :
    Below row col (n + Loops.searchsorted (row.drop n) col[k]) k ∧
    ∀ hs : n + Loops.searchsorted (row.drop n) col[k] < row.length,
      col[k] ≤ row[n + Loops.searchsorted (row.drop n) col[k]] := by
  obtain ⟨h1, h2⟩ := searchsorted_props (row.drop n) col[k]
  generalize Loops.searchsorted (row.drop n) col[k] = t at h1 h2
  simp only [List.length_drop, List.getElem_drop] at h1 h2
  refine ⟨fun p hp _ hpt => ?_, fun hs => Nat.le_of_not_lt (h2 (Nat.lt_sub_iff_add_lt'.mpr hs))⟩
  by_cases hpn : p < n
  · exact h p hp hk hpn
  · obtain ⟨j, rfl⟩ := Nat.exists_eq_add_of_le (Nat.le_of_not_lt hpn)
    exact h1 j (Nat.lt_sub_iff_add_lt'.mpr hp) (Nat.lt_of_add_lt_add_left hpt)

theorem skipLoop_rest (row col : List Nat) (hrow : row.Pairwise (· < ·)) (hcol : col.Pairwise (· < ·)) (n : Nat) :
    ∀ (fuel k : Nat), Below row col n k →
      k ≤ Loops.skipLoop row col n fuel k ∧
      matchSpec row k (col.drop k) =
        matchSpec row (Loops.skipLoop row col n fuel k) (col.drop (Loops.skipLoop row col n fuel k))
  | 0, _, _ => ⟨Nat.le_refl _, rfl⟩
  | fuel + 1, k, hinv => by
    unfold Loops.skipLoop
    split
    · rename_i cc rs hcc hrs
      obtain ⟨hk, rfl⟩ := List.getElem?_eq_some_iff.mp hcc
      obtain ⟨hn, rfl⟩ := List.getElem?_eq_some_iff.mp hrs
      split
      · rename_i hlt
        obtain ⟨h1, h2⟩ := skipLoop_rest row col hrow hcol n fuel (k + 1) (hinv.mono hcol (Nat.le_succ k))
        exact ⟨Nat.le_of_succ_le h1, (matchSpec_miss hk (hinv.not_mem hrow hk fun _ => hlt)).trans h2⟩
      · exact ⟨Nat.le_refl _, rfl⟩
    · exact ⟨Nat.le_refl _, rfl⟩

theorem binLoop_eq (row col : List Nat) (hrow : row.Pairwise (· < ·)) (hcol : col.Pairwise (· < ·))
    (hne : 0 < row.length) :
    ∀ (fuel n k : Nat) (acc : List (Nat × Nat)), col.length - k < fuel → Below row col n k →
      Loops.binLoop row col fuel n k acc = .done (acc.reverse ++ matchSpec row k (col.drop k))
  | 0, _, _, _, h, _ => by omega
  | fuel + 1, n, k₀, acc, hf, hinv₀ => by
    unfold Loops.binLoop
    by_cases hk₀ : k₀ < col.length
    · rw [if_pos hk₀]
      simp only []
      obtain ⟨hge, hrest⟩ := skipLoop_rest row col hrow hcol n (col.length - k₀) k₀ hinv₀
      have hinv := hinv₀.mono hcol hge
      rw [hrest]
      generalize Loops.skipLoop row col n (col.length - k₀) k₀ = k at hge hinv
      by_cases hk : k ≥ col.length
      · rw [if_pos hk, hinv.rest_nil hrow hcol fun _ hk' _ => absurd hk' (Nat.not_lt_of_ge hk), List.append_nil]
      · rw [if_neg hk]
        have hk : k < col.length := Nat.lt_of_not_ge hk
        have hf' : col.length - (k + 1) < fuel :=
          Nat.lt_of_lt_of_le (Nat.sub_lt_sub_left hk (Nat.lt_succ_self k))
            (Nat.le_of_lt_succ (Nat.lt_of_le_of_lt (Nat.sub_le_sub_left hge _) hf))
        have hrl : row.length - 1 < row.length := Nat.sub_one_lt_of_lt hne
        have hcl : col.length - 1 < col.length := Nat.sub_one_lt_of_lt hk
        rw [getLast?_getElem hne, getLast?_getElem (Nat.zero_lt_of_lt hk), List.getElem?_eq_getElem hk]
        simp only []
        by_cases hb1 : row[row.length - 1] < col[k]
        · rw [if_pos hb1, (Below.of_last_lt hrow hrl hk hb1).rest_nil hrow hcol fun hn' => absurd hn' (Nat.lt_irrefl _),
            List.append_nil]
        · rw [if_neg hb1]
          have hn : n < row.length :=
            Nat.lt_of_not_ge fun h => hb1 (hinv (row.length - 1) hrl hk (Nat.lt_of_lt_of_le hrl h))
          rw [List.getElem?_eq_getElem hn]
          simp only []
          by_cases hb2 : row[n] > col[col.length - 1]
          · rw [if_pos hb2, hinv.rest_nil hrow hcol fun _ _ _ => hb2, List.append_nil]
          · rw [if_neg hb2]
            obtain ⟨hbelow, hland⟩ := hinv.searchsorted hk
            generalize Loops.searchsorted (row.drop n) col[k] = t at hbelow hland
            by_cases hs : n + t < row.length
            · rw [List.getElem?_eq_getElem hs]
              simp only []
              by_cases hv : row[n + t] = col[k]
              · rw [if_pos hv, binLoop_eq row col hrow hcol hne fuel (n + t + 1) (k + 1) _ hf'
                  (hbelow.succ_succ hcol hk fun _ => Nat.le_of_eq hv), matchSpec_hit hrow hk hs hv,
                  List.reverse_cons, List.append_assoc, List.singleton_append]
              · rw [if_neg hv, binLoop_eq row col hrow hcol hne fuel (n + t) (k + 1) _ hf'
                  (hbelow.mono hcol (Nat.le_succ k)),
                  matchSpec_miss hk (hbelow.not_mem hrow hk fun _ => Nat.lt_of_le_of_ne (hland hs) (Ne.symm hv))]
            · rw [List.getElem?_eq_none (Nat.le_of_not_lt hs)]
              simp only []
              rw [binLoop_eq row col hrow hcol hne fuel (n + t) (k + 1) _ hf' (hbelow.mono hcol (Nat.le_succ k)),
                matchSpec_miss hk (hbelow.not_mem hrow hk fun hn' => absurd hn' hs)]
    · rw [if_neg hk₀, hinv₀.rest_nil hrow hcol fun _ hk' _ => absurd hk' hk₀, List.append_nil]

theorem budget_gt (row col : List Nat) : row.length + col.length < Loops.budget row col := Nat.lt_succ_self _

/-- `get_slicing_selection` on one row: strictly increasing requested columns is the `pos_slice` guard, the
step budget that of property C18 -/
theorem rowSelection_eq (indices col : List Nat) (st en : Nat)
    (hrow : (rowSlice indices st en).Pairwise (· < ·)) (hcol : col.Pairwise (· < ·)) :
    Loops.rowSelection none indices col st en = .done (matchSpec (rowSlice indices st en) 0 col) := by
  unfold Loops.rowSelection rowSlice at *
  simp only [Option.getD_none]
  split
  · rw [linLoop_eq _ _ hrow hcol _ 0 0 [] (budget_gt _ _) Below.zero]
    simp
  · rename_i hlen
    by_cases hne : 0 < ((indices.take en).drop st).length
    · rw [binLoop_eq _ _ hrow hcol hne _ 0 0 [] (Nat.lt_of_le_of_lt (Nat.le_add_left _ _) (budget_gt _ _))
        Below.zero]
      simp
    · have h1 : (indices.take en).drop st = [] := List.length_eq_zero_iff.mp (by omega)
      have h2 : col = [] := by rw [h1] at hlen; simpa using hlen
      rw [h1, h2]
      rfl

theorem slicingSelection_go_eq (ind c : List Nat) (f : Nat × Nat → List (Nat × Nat)) :
    ∀ (rows : List (Nat × Nat)) (il cs ptr : List Nat) (last : Nat),
    (∀ p ∈ rows, Loops.rowSelection none ind c p.1 p.2 = .done (f p)) →
    Loops.slicingSelection.go none ind c rows il cs ptr last =
      .done (il.reverse ++ rows.flatMap (fun p => (f p).map fun q => q.1 + p.1))
        (cs.reverse ++ rows.flatMap (fun p => (f p).map (·.2)))
        (ptr.reverse ++ cumLens last (rows.map fun p => (f p).length))
  | [], il, cs, ptr, last, _ => by simp [Loops.slicingSelection.go, cumLens]
  | (st, en) :: rest, il, cs, ptr, last, h => by
    unfold Loops.slicingSelection.go
    rw [h (st, en) List.mem_cons_self]
    simp only []
    rw [slicingSelection_go_eq ind c f rest _ _ _ _ (fun p hp => h p (List.mem_cons_of_mem _ hp))]
    simp [cumLens]

def selSpec (indices : List Nat) (rows : List (Nat × Nat)) (col : List Nat) : Sel :=
  assemble (rows.map fun p => (p.1, matchSpec (rowSlice indices p.1 p.2) 0 col))

/-- `get_array_selection`: any `col`, unsorted or with repeats -/
theorem arraySelection_eq (indices : List Nat) (rows : List (Nat × Nat)) (col : List Nat)
    (hrows : ∀ p ∈ rows, (rowSlice indices p.1 p.2).Pairwise (· < ·)) :
    arraySelection indices rows col = selSpec indices rows col := by
  unfold arraySelection selSpec
  congr 1
  apply List.map_congr_left
  intro p hp
  rw [arrayRow_eq _ _ (hrows p hp)]

/-- `get_slicing_selection`: `col` strictly increasing (`pos_slice`); never fails -/
theorem slicingSelection_eq (indices : List Nat) (rows : List (Nat × Nat)) (col : List Nat)
    (hrows : ∀ p ∈ rows, (rowSlice indices p.1 p.2).Pairwise (· < ·)) (hcol : col.Pairwise (· < ·)) :
    slicingSelection indices rows col = .ok (selSpec indices rows col) := by
  unfold slicingSelection Loops.slicingSelection
  rw [slicingSelection_go_eq indices col (fun p => matchSpec (rowSlice indices p.1 p.2) 0 col) rows [] [] [0] 0
    (fun p hp => rowSelection_eq indices col p.1 p.2 (hrows p hp) hcol)]
  simp [selSpec, assemble, List.flatMap_map]
  rfl

theorem matchSpec_snd (row : List Nat) : ∀ (c0 : Nat) (vs : List Nat),
    (∀ q ∈ matchSpec row c0 vs, c0 ≤ q.2 ∧ q.2 < c0 + vs.length) ∧
    ((matchSpec row c0 vs).map (·.2)).Pairwise (· < ·)
  | _, [] => by simp [matchSpec]
  | c0, v :: vs => by
    obtain ⟨h1, h2⟩ := matchSpec_snd row (c0 + 1) vs
    unfold matchSpec
    split
    · refine ⟨fun q hq => ?_, List.pairwise_cons.mpr ⟨fun b hb => ?_, h2⟩⟩
      · rcases List.mem_cons.mp hq with rfl | hq
        · simp
        · have := h1 q hq; simp only [List.length_cons]; omega
      · obtain ⟨q, hq, rfl⟩ := List.mem_map.mp hb
        exact (h1 q hq).1
    · refine ⟨fun q hq => by have := h1 q hq; simp only [List.length_cons]; omega, h2⟩

theorem rowGet_matchSpec (row : List Nat) (f : Nat → Int) (d : Int) : ∀ (vs : List Nat) (c0 j : Nat), j < vs.length →
    rowGet ((matchSpec row c0 vs).map fun q => (q.2, f q.1)) d (c0 + j) =
      if vs.getD j 0 ∈ row then f (row.idxOf (vs.getD j 0)) else d
  | v :: vs, c0, 0, _ => by
    rw [List.getD_cons_zero, matchSpec]
    split
    · simp only [List.map_cons, rowGet, List.find?_cons, Nat.add_zero, beq_self_eq_true]
    · -- every later match sits at a position beyond `c0`
      rw [rowGet, List.find?_eq_none.mpr]
      intro e he
      obtain ⟨q, hq, rfl⟩ := List.mem_map.mp he
      have := (matchSpec_snd row (c0 + 1) vs).1 q hq
      simp only [beq_iff_eq]
      omega
  | v :: vs, c0, j + 1, h => by
    have e : c0 + (j + 1) = c0 + 1 + j := (Nat.add_right_comm c0 1 j).symm
    rw [List.getD_cons_succ, ← rowGet_matchSpec row f d vs (c0 + 1) j (Nat.lt_of_succ_lt_succ h), e, matchSpec]
    split
    · have hne : (c0 == c0 + 1 + j) = false := by
        rw [beq_eq_false_iff_ne]
        omega
      simp only [List.map_cons, rowGet, List.find?_cons, hne]
    · rfl

theorem rowSlice_getD {β : Type} (l : List β) (st en p : Nat) (d d' : β) (h : p < (rowSlice l st en).length) :
    (rowSlice l st en).getD p d = l.getD (st + p) d' := by
  rw [rowSlice_length] at h
  unfold rowSlice
  simp only [List.getD_eq_getElem?_getD, List.getElem?_drop, List.getElem?_take]
  rw [if_pos (by omega), List.getElem?_eq_getElem (by omega)]
  rfl

theorem rowGet_zip : ∀ (row : List Nat) (ds : List Int) (d : Int) (v : Nat), row.length ≤ ds.length →
    rowGet (row.zip ds) d v = if v ∈ row then ds.getD (row.idxOf v) d else d
  | [], _, _, _, _ => rfl
  | a :: row, x :: ds, d, v, h => by
    rw [List.zip_cons_cons, rowGet, List.find?_cons, List.idxOf_cons]
    by_cases hav : a = v
    · subst hav
      simp
    · have ih := rowGet_zip row ds d v (Nat.le_of_succ_le_succ h)
      rw [rowGet] at ih
      simp only [beq_eq_false_iff_ne.mpr hav, cond_false, ih, List.mem_cons, or_iff_right (Ne.symm hav),
        List.getD_cons_succ]

/-- the rows both kernels are specified to produce: for every requested row, the requested columns it stores
(as positions in `cols`) with their values -/
def selRows (indptr indices : List Nat) (data : List Int) (rows cols : List Nat) : List (List (Nat × Int)) :=
  rows.map fun r =>
    (matchSpec (rowSlice indices (indptr.getD r 0) (indptr.getD (r + 1) 0)) 0 cols).map fun q =>
      (q.2, data.getD (q.1 + indptr.getD r 0) 0)

theorem rowGet_select (indices : List Nat) (data : List Int) (hd : data.length = indices.length) (st en : Nat)
    (cols : List Nat) (d : Int) (c' : Nat) (hc : c' < cols.length) :
    rowGet ((matchSpec (rowSlice indices st en) 0 cols).map fun q => (q.2, data.getD (q.1 + st) 0)) d c' =
      rowGet ((rowSlice indices st en).zip (rowSlice data st en)) d (cols.getD c' 0) := by
  have hlen : (rowSlice indices st en).length = (rowSlice data st en).length := by
    rw [rowSlice_length, rowSlice_length, hd]
  have h := rowGet_matchSpec (rowSlice indices st en) (fun p => data.getD (p + st) 0) d cols 0 c' hc
  rw [Nat.zero_add] at h
  rw [h, rowGet_zip _ _ d _ (Nat.le_of_eq hlen)]
  by_cases hv : cols.getD c' 0 ∈ rowSlice indices st en
  · rw [if_pos hv, if_pos hv, rowSlice_getD data _ _ _ d 0 (hlen ▸ List.idxOf_lt_length_of_mem hv), Nat.add_comm]
  · rw [if_neg hv, if_neg hv]

/-- `get_single_element` on one row is `get_array_selection` for the one requested column -/
theorem getSingle_row (indices : List Nat) (data : List Int) (hd : data.length = indices.length) (st en col : Nat)
    (fill : Int) (hs : (rowSlice indices st en).Pairwise (· < ·)) :
    (if Loops.searchsorted (rowSlice indices st en) col < (rowSlice indices st en).length ∧
        (rowSlice indices st en).getD (Loops.searchsorted (rowSlice indices st en) col) 0 = col
      then data.getD (Loops.searchsorted (rowSlice indices st en) col + st) 0 else fill)
      = rowGet ((rowSlice indices st en).zip (rowSlice data st en)) fill col := by
  refine Eq.trans ?_ (rowGet_select indices data hd st en [col] fill 0 Nat.zero_lt_one)
  rw [← arrayRowAux_eq _ hs]
  simp only [arrayRowAux]
  split <;> rfl

theorem selRows_get (indptr indices : List Nat) (data : List Int) (hd : data.length = indices.length)
    (rows cols : List Nat) (d : Int) (r' c' : Nat) (hr : r' < rows.length) (hc : c' < cols.length) :
    rowGet ((selRows indptr indices data rows cols).getD r' []) d c' =
      rowGet (csrRow indptr indices data (rows.getD r' 0)) d (cols.getD c' 0) := by
  rw [selRows, getD_map _ rows r' hr 0]
  exact rowGet_select indices data hd _ _ cols d c' hc

theorem select_eq (g : GCXS Int) (R C : Nat) (hwf : CsrWF R C g.indptr g.indices g.data.length)
    (rows cols : List Nat) (hrows : ∀ r ∈ rows, r < R) (posSlice : Bool)
    (hcols : posSlice = true → cols.Pairwise (· < ·)) :
    ∃ s dat, g.select rows cols posSlice = .ok (s, dat) ∧
      s.indptr = 0 :: cumLens 0 ((selRows g.indptr g.indices g.data rows cols).map List.length) ∧
      s.indices = (selRows g.indptr g.indices g.data rows cols).flatten.map (·.1) ∧
      dat = (selRows g.indptr g.indices g.data rows cols).flatten.map (·.2) := by
  have hsorted : ∀ p ∈ rows.map (fun r => (g.indptr.getD r 0, g.indptr.getD (r + 1) 0)),
      (rowSlice g.indices p.1 p.2).Pairwise (· < ·) := by
    intro p hp
    obtain ⟨r, hr, rfl⟩ := List.mem_map.mp hp
    exact hwf.row_sorted r (hrows r hr)
  refine ⟨selSpec g.indices (rows.map fun r => (g.indptr.getD r 0, g.indptr.getD (r + 1) 0)) cols,
    (selSpec g.indices (rows.map fun r => (g.indptr.getD r 0, g.indptr.getD (r + 1) 0)) cols).indList.map
      fun p => g.data.getD p 0, ?_, ?_, ?_, ?_⟩
  · unfold GCXS.select
    cases posSlice with
    | true =>
      simp only [if_true, bind, Except.bind, pure, Except.pure]
      rw [slicingSelection_eq _ _ _ hsorted (hcols rfl)]
    | false =>
      simp only [Bool.false_eq_true, if_false, bind, Except.bind, pure, Except.pure]
      rw [arraySelection_eq _ _ _ hsorted]
  · simp only [selSpec, assemble, selRows, List.map_map]
    congr 2
    apply List.map_congr_left
    intro r _
    simp only [Function.comp, List.length_map]
  · simp only [selSpec, assemble, selRows]
    rw [List.flatMap_map, List.flatMap_map, List.map_flatten, List.map_map, ← List.flatMap_def]
    apply flatMap_congr'
    intro r _
    simp only [Function.comp, List.map_map]
    rfl
  · simp only [selSpec, assemble, selRows]
    rw [List.flatMap_map, List.flatMap_map, List.map_flatMap, List.map_flatten, List.map_map, ← List.flatMap_def]
    apply flatMap_congr'
    intro r _
    simp only [Function.comp, List.map_map]
    rfl

theorem selRows_sorted (indptr indices : List Nat) (data : List Int) (rows cols : List Nat) :
    (∀ row ∈ selRows indptr indices data rows cols, (row.map (·.1)).Pairwise (· < ·)) ∧
    (∀ row ∈ selRows indptr indices data rows cols, ∀ e ∈ row, e.1 < cols.length) := by
  constructor
  · intro row hrow
    obtain ⟨r, _, rfl⟩ := List.mem_map.mp hrow
    rw [List.map_map]
    exact (matchSpec_snd _ 0 cols).2
  · intro row hrow e he
    obtain ⟨r, _, rfl⟩ := List.mem_map.mp hrow
    obtain ⟨q, hq, rfl⟩ := List.mem_map.mp he
    have := (matchSpec_snd _ 0 cols).1 q hq
    simp only; omega

/-- **The 2-d core of GCXS indexing.**  Requested rows: in range, any order, repeats allowed; requested columns:
any order and repeats on the `get_array_selection` path, strictly increasing when `pos_slice` sends the call to
`get_slicing_selection`. -/
theorem select_spec (g : GCXS Int) (R C : Nat) (hwf : CsrWF R C g.indptr g.indices g.data.length)
    (rows cols : List Nat) (hrows : ∀ r ∈ rows, r < R) (posSlice : Bool)
    (hcols : posSlice = true → cols.Pairwise (· < ·)) :
    ∃ s dat, g.select rows cols posSlice = .ok (s, dat) ∧
      CsrWF rows.length cols.length s.indptr s.indices dat.length ∧
      ∀ (d : Int) (r' c' : Nat), r' < rows.length → c' < cols.length →
        rowGet (csrRow s.indptr s.indices dat r') d c' =
          rowGet (csrRow g.indptr g.indices g.data (rows.getD r' 0)) d (cols.getD c' 0) := by
  obtain ⟨s, dat, hsel, h1, h2, h3⟩ := select_eq g R C hwf rows cols hrows posSlice hcols
  obtain ⟨hs1, hs2⟩ := selRows_sorted g.indptr g.indices g.data rows cols
  obtain ⟨hcsr, hrow⟩ := fromRows_csr (selRows g.indptr g.indices g.data rows cols) cols.length hs1 hs2
  have hlen : (selRows g.indptr g.indices g.data rows cols).length = rows.length := by simp [selRows]
  rw [← h1, ← h2, ← h3, hlen] at hcsr
  refine ⟨s, dat, hsel, hcsr, fun d r' c' hr hc => ?_⟩
  rw [h1, h2, h3, hrow r' (by omega), ← selRows_get g.indptr g.indices g.data hwf.data_len rows cols d r' c' hr hc,
    List.getD_eq_getElem?_getD, List.getElem?_eq_getElem (by omega), Option.getD_some]

end GIx
end SparseV
