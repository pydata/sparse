/-
  SparseV.Lemmas.Assoc — lookups in entry lists: the lemmas every "rewrite the coordinates, then
  hand the entries to the constructor" operation rests on.
-/
import SparseV.Model.Coo
namespace SparseV
namespace COO
variable {α : Type}

def keysOf (es : List (Idx × α)) : List Idx := es.map (·.1)

theorem mem_keysOf {es : List (Idx × α)} {i : Idx} : i ∈ keysOf es ↔ ∃ e ∈ es, e.1 = i := by
  simp [keysOf]

theorem keysOf_append (A B : List (Idx × α)) : keysOf (A ++ B) = keysOf A ++ keysOf B := by
  simp [keysOf]

theorem mem_keysOf_perm {α : Type} {es es' : List (Idx × α)} (hp : es.Perm es') (i : Idx) :
    i ∈ keysOf es ↔ i ∈ keysOf es' :=
  (List.Perm.map (fun e : Idx × α => e.1) hp).mem_iff

theorem nodup_keysOf_perm {α : Type} {es es' : List (Idx × α)} (hp : es.Perm es') :
    (keysOf es).Nodup ↔ (keysOf es').Nodup :=
  (List.Perm.map (fun e : Idx × α => e.1) hp).nodup_iff

@[simp] theorem lookup_nil (d : α) (i : Idx) : lookup ([] : List (Idx × α)) d i = d := by
  simp [lookup]

theorem lookup_cons (e : Idx × α) (es : List (Idx × α)) (d : α) (i : Idx) :
    lookup (e :: es) d i = if e.1 = i then e.2 else lookup es d i := by
  unfold lookup
  simp only [List.find?_cons]
  by_cases h : e.1 = i
  · simp [h]
  · have : (e.1 == i) = false := by simpa using h
    simp [this, h]

theorem lookup_append (A B : List (Idx × α)) (d : α) (j : Idx) :
    lookup (A ++ B) d j = lookup A (lookup B d j) j := by
  induction A with
  | nil => simp
  | cons e A ih => rw [List.cons_append, lookup_cons, lookup_cons, ih]

theorem lookup_of_not_mem {es : List (Idx × α)} {d : α} {i : Idx} (h : i ∉ keysOf es) :
    lookup es d i = d := by
  induction es with
  | nil => simp
  | cons e es ih =>
    rw [lookup_cons]
    simp only [keysOf, List.map_cons, List.mem_cons, not_or] at h
    have h1 : ¬ e.1 = i := fun hh => h.1 hh.symm
    simp only [h1, if_false]
    exact ih h.2

theorem lookup_of_mem {es : List (Idx × α)} {d : α} {i : Idx} {v : α}
    (hnd : (keysOf es).Nodup) (hm : (i, v) ∈ es) : lookup es d i = v := by
  induction es with
  | nil => cases hm
  | cons e es ih =>
    rw [lookup_cons]
    simp only [keysOf, List.map_cons, List.nodup_cons] at hnd
    rcases List.mem_cons.mp hm with h | h
    · subst h; simp
    · have : e.1 ≠ i := by
        intro he
        apply hnd.1
        rw [he]
        exact mem_keysOf.mpr ⟨(i, v), h, rfl⟩
      simp only [this, if_false]
      exact ih hnd.2 h

theorem get_nil_of_cons (x : COO α) (hwf : x.WF) (hs : x.shape = []) {e : Idx × α} {rest : List (Idx × α)}
    (hes : x.entries = e :: rest) : e.2 = x.get [] := by
  have hin := hwf e (hes ▸ List.mem_cons_self)
  rw [hs] at hin
  match h : e.1, hin with
  | [], _ => rw [COO.get, hes, lookup_cons, if_pos h]

theorem lookup_perm {es es' : List (Idx × α)} (d : α) (i : Idx)
    (hnd : (keysOf es).Nodup) (hp : es.Perm es') : lookup es d i = lookup es' d i := by
  have hnd' : (keysOf es').Nodup := (nodup_keysOf_perm hp).mp hnd
  by_cases hk : i ∈ keysOf es
  · obtain ⟨e, he, rfl⟩ := mem_keysOf.mp hk
    rw [lookup_of_mem hnd he, lookup_of_mem hnd' (hp.mem_iff.mp he)]
  · rw [lookup_of_not_mem hk, lookup_of_not_mem (mt (mem_keysOf_perm hp i).mpr hk)]

theorem lookup_map_hit {β : Type} (l : List β) (key : β → Idx) (v d : α) (idx : Idx)
    (h : ∃ t ∈ l, key t = idx) : lookup (l.map fun t => (key t, v)) d idx = v := by
  induction l with
  | nil => obtain ⟨t, ht, _⟩ := h; cases ht
  | cons a l ih =>
    rw [List.map_cons, lookup_cons]
    by_cases ha : key a = idx
    · simp [ha]
    · simp only [ha, if_false]
      apply ih
      obtain ⟨t, ht, hk⟩ := h
      rcases List.mem_cons.mp ht with rfl | ht'
      · exact absurd hk ha
      · exact ⟨t, ht', hk⟩

theorem lookup_map_miss {β : Type} (l : List β) (key : β → Idx) (v d : α) (idx : Idx)
    (h : ∀ t ∈ l, key t ≠ idx) : lookup (l.map fun t => (key t, v)) d idx = d := by
  apply lookup_of_not_mem
  simp only [keysOf, List.map_map, List.mem_map, not_exists, not_and]
  intro t ht hk
  exact h t ht hk

theorem lookup_filter (p : Idx → Bool) (es : List (Idx × α)) (d : α) (j : Idx) :
    lookup (es.filter fun e => p e.1) d j = if p j then lookup es d j else d := by
  induction es with
  | nil => simp
  | cons e es ih =>
    rw [List.filter_cons]
    by_cases hp : p e.1 = true
    · rw [if_pos hp, lookup_cons, lookup_cons, ih]
      by_cases he : e.1 = j
      · rw [if_pos he, if_pos he]; rw [he] at hp; rw [if_pos hp]
      · rw [if_neg he, if_neg he]
    · rw [if_neg hp, ih, lookup_cons]
      by_cases he : e.1 = j
      · rw [he] at hp; rw [if_neg hp, if_neg hp]
      · rw [if_neg he]

theorem lookup_prune [DecidableEq α] (fill : α) (es : List (Idx × α)) (i : Idx)
    (hnd : (keysOf es).Nodup) : lookup (pruneEntries fill es) fill i = lookup es fill i := by
  induction es with
  | nil => rfl
  | cons e es ih =>
    simp only [keysOf, List.map_cons, List.nodup_cons] at hnd
    unfold pruneEntries at ih ⊢
    rw [List.filter_cons, lookup_cons]
    by_cases hv : e.2 = fill
    · have : ¬ (decide (e.2 ≠ fill) = true) := by simp [hv]
      rw [if_neg this, ih hnd.2]
      by_cases h : e.1 = i
      · rw [if_pos h, hv]
        apply lookup_of_not_mem
        rw [← h]; exact hnd.1
      · rw [if_neg h]
    · have : decide (e.2 ≠ fill) = true := by simp [hv]
      rw [if_pos this, lookup_cons, ih hnd.2]

/-- `g` rewrites a stored coordinate, or drops the entry (`none`: the operation does not select it) -/
def rewrite (g : Idx → Option Idx) (es : List (Idx × α)) : List (Idx × α) :=
  es.filterMap fun e => (g e.1).map fun k => (k, e.2)

/-- **The coordinate-rewrite lemma.** `g` rewrites (or drops) stored coordinates, `h` maps a result
index back to the operand index it reads. -/
theorem rewrite_lookup (es : List (Idx × α)) (d : α) (g : Idx → Option Idx) (h : Idx → Idx) (j : Idx)
    (hinv : ∀ e ∈ es, ∀ j', g e.1 = some j' → h j' = e.1) (hj : g (h j) = some j) :
    lookup (rewrite g es) d j = lookup es d (h j) := by
  unfold rewrite
  induction es with
  | nil => simp
  | cons e es ih =>
    have ih := ih (fun e' he' => hinv e' (List.mem_cons_of_mem _ he'))
    rw [lookup_cons, List.filterMap_cons]
    cases hg : g e.1 with
    | none =>
      simp only [Option.map_none]
      have : ¬ e.1 = h j := by
        intro he
        rw [he, hj] at hg
        cases hg
      simp only [this, if_false]
      exact ih
    | some j' =>
      simp only [Option.map_some]
      rw [lookup_cons]
      by_cases hjj : j' = j
      · subst hjj
        have : e.1 = h j' := (hinv e (List.mem_cons_self) _ hg).symm
        simp [this]
      · have : ¬ e.1 = h j := by
          intro he
          rw [he, hj] at hg
          exact hjj (Option.some.inj hg).symm
        simp only [hjj, this, if_false]
        exact ih

theorem keysOf_rewrite (es : List (Idx × α)) (g : Idx → Option Idx) :
    keysOf (rewrite g es) = es.filterMap fun e => g e.1 := by
  simp [keysOf, rewrite, List.map_filterMap, Option.map_map, Function.comp_def]

theorem mem_keysOf_rewrite {es : List (Idx × α)} {g : Idx → Option Idx} {k : Idx} :
    k ∈ keysOf (rewrite g es) ↔ ∃ e ∈ es, g e.1 = some k := by
  rw [keysOf_rewrite, List.mem_filterMap]

theorem lookup_filterMap_miss (es : List (Idx × α)) (d : α) (g : Idx → Option Idx) (j : Idx)
    (hmiss : ∀ e ∈ es, g e.1 ≠ some j) :
    lookup (es.filterMap fun e => (g e.1).map fun k => (k, e.2)) d j = d :=
  lookup_of_not_mem fun hmem =>
    let ⟨e, he, hg⟩ := mem_keysOf_rewrite.mp hmem
    hmiss e he hg

theorem rewrite_nodup (es : List (Idx × α)) (g : Idx → Option Idx) (h : Idx → Idx)
    (hinv : ∀ e ∈ es, ∀ j', g e.1 = some j' → h j' = e.1) (hnd : (keysOf es).Nodup) :
    (keysOf (rewrite g es)).Nodup := by
  unfold keysOf at hnd
  rw [List.Nodup, List.pairwise_map] at hnd
  rw [keysOf_rewrite, List.Nodup, List.pairwise_filterMap]
  -- two kept entries with the same new key have the same old key, `h` of it
  exact hnd.imp_of_mem fun ha hb hne k hk k' hk' hkk =>
    hne ((hinv _ ha k hk).symm.trans (hkk ▸ hinv _ hb k' hk'))

theorem sortEntries_perm (shape : List Nat) (es : List (Idx × α)) : (sortEntries shape es).Perm es :=
  List.mergeSort_perm _ _

theorem lookup_sortEntries (shape : List Nat) (es : List (Idx × α)) (d : α) (i : Idx)
    (hnd : (keysOf es).Nodup) : lookup (sortEntries shape es) d i = lookup es d i :=
  (lookup_perm d i hnd (sortEntries_perm shape es).symm).symm

theorem nodup_sortEntries (shape : List Nat) (es : List (Idx × α)) (hnd : (keysOf es).Nodup) :
    (keysOf (sortEntries shape es)).Nodup :=
  (nodup_keysOf_perm (sortEntries_perm shape es)).mpr hnd

theorem mapIdx_eq_rewrite (f : Idx → Idx) (es : List (Idx × α)) :
    mapIdx f es = rewrite (fun i => some (f i)) es := by
  induction es with
  | nil => rfl
  | cons e es ih => simp [mapIdx, rewrite] at ih ⊢

end COO
end SparseV
