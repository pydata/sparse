/-
  SparseV.Lemmas.Loops — progress of the `while` loops of `get_slicing_selection` (property C18).
-/
import SparseV.Model.Loops
namespace SparseV
namespace Loops

/-- the first loop: every iteration either stops or advances one of the two cursors, so
`(len(row) - count) + (len(col) - col_count)` steps (plus one to observe the exit) always suffice -/
theorem linLoop_fuel (row col : List Nat) : ∀ (fuel count colCount : Nat) (acc : List (Nat × Nat)),
    (row.length - count) + (col.length - colCount) < fuel → linLoop row col fuel count colCount acc ≠ .outOfFuel := by
  intro fuel count colCount acc h
  fun_induction linLoop row col fuel count colCount acc
  case case1 => omega
  case case3 ih | case4 ih | case5 ih => exact ih (by omega)
  all_goals exact nofun

theorem skipLoop_ge (row col : List Nat) (size fuel colCount : Nat) : colCount ≤ skipLoop row col size fuel colCount := by
  fun_induction skipLoop row col size fuel colCount
  case case2 ih => exact Nat.le_trans (Nat.le_succ _) ih
  all_goals exact Nat.le_refl _

/-- the second loop: `col_count += 1` ends every iteration that does not stop, so `len(col) - col_count + 1` steps suffice -/
theorem binLoop_fuel (row col : List Nat) : ∀ (fuel size colCount : Nat) (acc : List (Nat × Nat)),
    col.length - colCount < fuel → binLoop row col fuel size colCount acc ≠ .outOfFuel := by
  intro fuel size colCount acc h
  fun_induction binLoop row col fuel size colCount acc with
  | case1 => omega
  | case6 fuel size colCount acc _ k | case7 fuel size colCount acc _ k | case8 fuel size colCount acc _ k =>
    have hge : colCount ≤ k := skipLoop_ge row col size _ colCount
    rename_i ih
    exact ih (by omega)
  | _ => exact nofun

theorem rowSelection_fuel (indices col : List Nat) (start stop : Nat) :
    rowSelection none indices col start stop ≠ .outOfFuel := by
  unfold rowSelection budget
  dsimp only [Option.getD_none]
  by_cases hlen : ((indices.take stop).drop start).length < col.length
  · rw [if_pos hlen]
    exact linLoop_fuel _ _ _ _ _ _ (by omega)
  · rw [if_neg hlen]
    exact binLoop_fuel _ _ _ _ _ _ (by omega)

theorem go_fuel (ind c : List Nat) : ∀ (rows : List (Nat × Nat)) (il cs ptr : List Nat) (last : Nat),
    slicingSelection.go none ind c rows il cs ptr last ≠ .outOfFuel
  | [], _, _, _, _ => by
    unfold slicingSelection.go
    exact nofun
  | (st, en) :: rest, il, cs, ptr, last => by
    unfold slicingSelection.go
    cases h : rowSelection none ind c st en with
    | outOfFuel => exact absurd h (rowSelection_fuel ind c st en)
    | oob => exact nofun
    | done sel => exact go_fuel ind c rest _ _ _ _

theorem linLoop_no_oob (row col : List Nat) (fuel count colCount : Nat) (acc : List (Nat × Nat)) :
    linLoop row col fuel count colCount acc ≠ .oob := by
  fun_induction linLoop row col fuel count colCount acc
  case case3 ih | case4 ih | case5 ih => exact ih
  case case6 hc hno =>
    -- under the loop guard both arrays are non-empty and both cursors are inside them
    exact (hno _ _ _ _ (List.getLast?_eq_some_getLast (List.ne_nil_of_length_pos (by omega)))
      (List.getLast?_eq_some_getLast (List.ne_nil_of_length_pos (by omega)))
      (List.getElem?_eq_getElem hc.2) (List.getElem?_eq_getElem hc.1)).elim
  all_goals exact nofun

theorem searchsorted_le (a : List Nat) (v : Nat) : searchsorted a v ≤ a.length :=
  (List.takeWhile_prefix _).length_le

theorem lt_of_searchsorted_eq_length {a : List Nat} {v : Nat} (h : searchsorted a v = a.length) : ∀ x ∈ a, x < v := by
  intro x hx
  rw [← (List.takeWhile_prefix _).eq_of_length h] at hx
  exact of_decide_eq_true (List.all_eq_true.mp List.all_takeWhile x hx)

/-- the second loop never reads outside the row when `col` is strictly ascending (the `is_sorted` guard of `getitem`); the
invariant: once `size` has reached the end of the row, the last element of the row lies below every column still to come -/
theorem binLoop_no_oob (row col : List Nat) (hcol : col.Pairwise (· < ·)) (hrow : row = [] → col = [])
    (fuel size colCount : Nat) (acc : List (Nat × Nat)) (hsz : size ≤ row.length)
    (hinv : size = row.length → ∀ j (hj : j < col.length), colCount ≤ j → ∀ rl, row.getLast? = some rl → rl < col[j]) :
    binLoop row col fuel size colCount acc ≠ .oob := by
  fun_induction binLoop row col fuel size colCount acc with
  | case4 fuel size colCount acc hlt k hk rl cl cc hcc hcl hrl hnlt hnone =>
    -- `current_row[size]` past the row: excluded by the invariant
    have hk' : k < col.length := by omega
    have hs : size = row.length := by
      have := List.getElem?_eq_none_iff.mp hnone
      omega
    have := hinv hs k hk' (skipLoop_ge row col size _ colCount) rl hrl
    rw [List.getElem?_eq_getElem hk'] at hcc
    cases hcc
    exact absurd this hnlt
  | case6 fuel size colCount acc hlt k hk rl cl hcl hrl rs hrs hgt v hv hnlt s hs ih =>
    have hk' : k < col.length := by omega
    have hslt := (List.getElem?_eq_some_iff.mp hs).1
    refine ih (by omega) fun hlast j hj hkj rl' hrl' => ?_
    -- the matched element is the last of the row and equals `col[k] < col[j]`
    rw [List.getLast?_eq_getElem?, show row.length - 1 = s by omega, hs] at hrl'
    rw [List.getElem?_eq_getElem hk'] at hv
    cases hrl'
    cases hv
    exact List.pairwise_iff_getElem.mp hcol k j hk' hj (by omega)
  | case7 fuel size colCount acc hlt k hk rl cl cc hcc hcl hrl hnlt rs hrs hgt s v hv hne ih =>
    have hslt := (List.getElem?_eq_some_iff.mp hv).1
    exact ih (by omega) (fun h => by omega)
  | case8 fuel size colCount acc hlt k hk rl cl cc hcc hcl hrl hnlt rs hrs hgt s hnone ih =>
    -- `s >= current_row.size` cannot happen: every element from `size` on, the last one included, would lie below `col[k]`
    have hsize := (List.getElem?_eq_some_iff.mp hrs).1
    have hge := List.getElem?_eq_none_iff.mp hnone
    have hs : s = size + searchsorted (row.drop size) cc := rfl
    have hle := searchsorted_le (row.drop size) cc
    rw [List.length_drop] at hle
    have hall := lt_of_searchsorted_eq_length (a := row.drop size) (v := cc) (by rw [List.length_drop]; omega)
    have hmem : rl ∈ row.drop size := List.mem_of_getLast? (by rw [List.getLast?_drop, if_neg (by omega)]; exact hrl)
    exact absurd (hall rl hmem) hnlt
  | case9 fuel size colCount acc hlt k hk hno =>
    have hk' : k < col.length := by omega
    have hr : row ≠ [] := fun h => by
      rw [hrow h] at hk'
      exact absurd hk' (Nat.not_lt_zero _)
    exact (hno _ _ _ (List.getLast?_eq_some_getLast hr) (List.getLast?_eq_some_getLast (List.ne_nil_of_length_pos (by omega)))
      (List.getElem?_eq_getElem hk')).elim
  | _ => exact nofun

theorem rowSelection_no_oob (fuel : Option Nat) (indices col : List Nat) (start stop : Nat) (hcol : col.Pairwise (· < ·)) :
    rowSelection fuel indices col start stop ≠ .oob := by
  unfold rowSelection
  dsimp only
  by_cases hlen : ((indices.take stop).drop start).length < col.length
  · rw [if_pos hlen]
    exact linLoop_no_oob _ _ _ _ _ _
  · rw [if_neg hlen]
    -- the second loop is entered with a row at least as long as `col`: an empty row means an empty `col`
    have hrow : (indices.take stop).drop start = [] → col = [] := fun h =>
      List.eq_nil_of_length_eq_zero (by rw [h] at hlen; exact Nat.eq_zero_of_not_pos hlen)
    refine binLoop_no_oob _ _ hcol hrow _ _ _ _ (Nat.zero_le _) fun h j hj => ?_
    rw [hrow (List.eq_nil_of_length_eq_zero h.symm)] at hj
    exact absurd hj (Nat.not_lt_zero _)

theorem go_no_oob (fuel : Option Nat) (ind c : List Nat) (hcol : c.Pairwise (· < ·)) :
    ∀ (rows : List (Nat × Nat)) (il cs ptr : List Nat) (last : Nat),
    slicingSelection.go fuel ind c rows il cs ptr last ≠ .oob
  | [], _, _, _, _ => by
    unfold slicingSelection.go
    exact nofun
  | (st, en) :: rest, il, cs, ptr, last => by
    unfold slicingSelection.go
    cases h : rowSelection fuel ind c st en with
    | outOfFuel => exact nofun
    | oob => exact absurd h (rowSelection_no_oob fuel ind c st en hcol)
    | done sel => exact go_no_oob fuel ind c hcol rest _ _ _ _

end Loops
end SparseV
