/-
  SparseV.Lemmas.ProgBase — the simulation relation between a model run and a spec run of a
  program, and the glue shared by the per-operation step lemmas (Lemmas/Prog*.lean).
-/
import SparseV.Model.Expr
import SparseV.Lemmas.Canonical
import SparseV.Lemmas.Build
import SparseV.Props.C03
namespace SparseV
open SparseV.COO

/-- the program invariant on representations -/
structure Good (x : COO Int) : Prop where
  wf : x.WF
  sorted : SortedLin x.shape x.entries

theorem Good.nodup {x : COO Int} (h : Good x) : (keysOf x.entries).Nodup :=
  sortedLin_keys_nodup x.shape x.entries h.sorted

theorem inb_nil_eq {i : Idx} (h : InB i []) : i = [] := by
  cases i with
  | nil => rfl
  | cons a t => exact absurd h (by simp [InB])

/-- the sparse array denotes the dense one -/
structure Refines (x : COO Int) (d : Dense) : Prop where
  shape : x.shape = d.shape
  fill : x.fill = d.fill
  val : ∀ i, InB i x.shape → x.get i = d.val i

inductive RefinesL : List (COO Int) → List Dense → Prop
  | nil : RefinesL [] []
  | cons {x : COO Int} {d : Dense} {xs : List (COO Int)} {ds : List Dense} :
      Refines x d → RefinesL xs ds → RefinesL (x :: xs) (d :: ds)

def SimR {α β : Type} (R : α → β → Prop) (m : Except Err α) (s : Except Err β) : Prop :=
  match m with
  | .ok a => ∃ b, s = .ok b ∧ R a b
  | .error e => s = .error e

namespace SimR
variable {α β α' β' : Type} {R : α → β → Prop} {R' : α' → β' → Prop} {m : Except Err α} {s : Except Err β}

theorem ok {a : α} {b : β} (h : R a b) : SimR R (.ok a) (.ok b) := ⟨b, rfl, h⟩

theorem err (e : Err) : SimR R (.error e) (.error e) := rfl

theorem mono {R₂ : α → β → Prop} (h : SimR R m s) (himp : ∀ a b, R a b → R₂ a b) : SimR R₂ m s := by
  cases m with
  | error e => exact h
  | ok a =>
    obtain ⟨b, hs, hr⟩ := h
    exact ⟨b, hs, himp a b hr⟩

theorem bind (h : SimR R m s) {f : α → Except Err α'} {g : β → Except Err β'}
    (hstep : ∀ a b, R a b → SimR R' (f a) (g b)) : SimR R' (m >>= f) (s >>= g) := by
  cases m with
  | error e =>
    have hs : s = .error e := h
    subst hs; exact err e
  | ok a =>
    obtain ⟨b, hs, hr⟩ := h
    subst hs
    exact hstep a b hr

theorem reject {c : Prop} [Decidable c] {e : Err} (h : ¬ c → SimR R m s) :
    SimR R (if c then .error e else m) (if c then .error e else s) := by
  by_cases hc : c
  · rw [if_pos hc, if_pos hc]; exact err e
  · rw [if_neg hc, if_neg hc]; exact h hc

theorem require {c : Prop} [Decidable c] {e : Err} (h : c → SimR R m s) :
    SimR R (if c then m else .error e) (if c then s else .error e) := by
  by_cases hc : c
  · rw [if_pos hc, if_pos hc]; exact h hc
  · rw [if_neg hc, if_neg hc]; exact err e

theorem error_iff (h : SimR R m s) (e : Err) : m = .error e ↔ s = .error e := by
  cases m with
  | error e' =>
    have hs : s = .error e' := h
    subst hs
    exact ⟨fun h => by rw [Except.error.inj h], fun h => by rw [Except.error.inj h]⟩
  | ok a =>
    obtain ⟨b, hs, _⟩ := h
    subst hs
    exact ⟨fun h => (nomatch h), fun h => (nomatch h)⟩

end SimR

/-- on success the array is canonical, stores no fill value when `nf` holds, and denotes the spec's array -/
abbrev Sim (nf : Prop) : Except Err (COO Int) → Except Err Dense → Prop :=
  SimR fun x d => Good x ∧ (nf → x.NoFill) ∧ Refines x d

theorem Sim.ok {nf : Prop} {x : COO Int} {d : Dense} (hg : Good x) (hn : nf → x.NoFill) (hr : Refines x d) :
    Sim nf (.ok x) (.ok d) := SimR.ok ⟨hg, hn, hr⟩

theorem Sim.err {nf : Prop} (e : Err) : Sim nf (.error e) (.error e) := rfl

theorem Sim.mono {nf nf' : Prop} {m s} (h : Sim nf m s) (himp : nf' → nf) : Sim nf' m s :=
  SimR.mono h fun _ _ ⟨hg, hn, hr⟩ => ⟨hg, fun hh => hn (himp hh), hr⟩

theorem Sim.bind {nf : Prop} {m : Except Err (COO Int)} {s : Except Err Dense} (h : Sim nf m s)
    {fm : COO Int → Except Err (COO Int)} {fs : Dense → Except Err Dense}
    (hstep : ∀ x d, Good x → Refines x d → Sim x.NoFill (fm x) (fs d)) :
    Sim nf (m >>= fm) (s >>= fs) :=
  SimR.bind h fun x d ⟨hg, hn, hr⟩ => (hstep x d hg hr).mono hn

theorem normAxis_eq_npAxis (a : Int) (n : Nat) : normAxis a n = npAxis a n := by
  unfold normAxis npAxis
  rw [C03.normalize_axis_spec]
  split <;> rfl

theorem normAxes_eq_npAxes (as : List Int) (n : Nat) : normAxes as n = npAxes as n := by
  unfold normAxes npAxes
  congr 1
  funext a
  exact normAxis_eq_npAxis a n

theorem npAxis_lt {a : Int} {n k : Nat} (h : npAxis a n = .ok k) : k < n := by
  unfold npAxis at h
  split at h
  · next hc =>
    have := Except.ok.inj h
    subst this
    split <;> omega
  · cases h

theorem mapM_ok_forall {β γ : Type} (f : β → Except Err γ) (P : γ → Prop)
    (hf : ∀ b c, f b = .ok c → P c) : ∀ (l : List β) (r : List γ), l.mapM f = .ok r → ∀ c ∈ r, P c
  | [], r, h => by
    simp only [List.mapM_nil, pure, Except.pure] at h
    cases h; intro c hc; cases hc
  | b :: l, r, h => by
    rw [List.mapM_cons] at h
    cases hb : f b with
    | error e => rw [hb] at h; cases h
    | ok c0 =>
      rw [hb] at h
      cases hl : l.mapM f with
      | error e => rw [hl] at h; cases h
      | ok r0 =>
        rw [hl] at h
        simp only [bind, Except.bind, pure, Except.pure] at h
        cases h
        intro c hc
        rcases List.mem_cons.mp hc with rfl | hc
        · exact hf b _ hb
        · exact mapM_ok_forall f P hf l r0 hl c hc

theorem npAxes_lt {as : List Int} {n : Nat} {l : List Nat} (h : npAxes as n = .ok l) : ∀ a ∈ l, a < n :=
  mapM_ok_forall _ _ (fun _ _ hb => npAxis_lt hb) as l h

end SparseV
