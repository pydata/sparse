/-
  The n-ary element-wise model `elemwiseN` (`_Elemwise`): its three-way decision and the element reads of
  the sparse result.
-/
import SparseV.Lemmas.Broadcast
namespace SparseV

theorem bcTo_of_bshapeN {shapes : List (List Nat)} {r s : List Nat} (h : bshapeN shapes = .ok r)
    (hs : s ∈ shapes) : BcTo s r := by
  obtain ⟨hok, rfl⟩ := bshapeN_ok_iff.mp h
  apply bcTo_of_ext
  · rw [nDims_length]; exact le_bcRank hs
  · intro k _
    rw [ext_nDims]
    exact (hok k).mem_eq (List.mem_map.mpr ⟨s, hs, rfl⟩)

theorem bshapeN_sub_ok {shapes sub : List (List Nat)} {r : List Nat} (h : bshapeN shapes = .ok r)
    (hsub : ∀ s ∈ sub, s ∈ shapes) : bshapeN sub = .ok (nDims sub) := by
  obtain ⟨hok, _⟩ := bshapeN_ok_iff.mp h
  exact bshapeN_of_ok fun k => (colOk_colAt_iff sub k).mpr fun s hs t ht =>
    (colOk_colAt_iff shapes k).mp (hok k) s (hsub s hs) t (hsub t ht)

theorem bcTo_sub {shapes sub : List (List Nat)} {r r' : List Nat} (h : bshapeN shapes = .ok r)
    (h' : bshapeN sub = .ok r') (hsub : ∀ s ∈ sub, s ∈ shapes) : BcTo r' r := by
  obtain ⟨hok, rfl⟩ := bshapeN_ok_iff.mp h
  obtain ⟨_, rfl⟩ := bshapeN_ok_iff.mp h'
  apply bcTo_of_ext
  · rw [nDims_length, nDims_length]
    exact bcRank_le fun s hs => le_bcRank (hsub s hs)
  · intro k _
    rw [ext_nDims, ext_nDims]
    rcases colDim_spec (colAt sub k) with hs | hs
    · exact Or.inr hs.1
    · obtain ⟨s, hs', he⟩ := List.mem_map.mp hs.2
      exact (hok k).mem_eq (List.mem_map.mpr ⟨s, hsub s hs', he⟩)

theorem denseShapes_sub {α : Type} (ops : List (Operand α)) :
    ∀ s ∈ (ops.filter Operand.isDense).map Operand.shape, s ∈ ops.map Operand.shape := by
  intro s hs
  obtain ⟨o, ho, rfl⟩ := List.mem_map.mp hs
  exact List.mem_map.mpr ⟨o, (List.mem_filter.mp ho).1, rfl⟩

theorem not_InB_of_zero : ∀ {j : Idx} {s : List Nat}, 0 ∈ s → ¬ InB j s
  | x :: j, d :: s, h0, h => by
    rcases List.mem_cons.mp h0 with rfl | h0
    · exact Nat.not_lt_zero _ h.1
    · exact not_InB_of_zero h0 h.2
  | [], _ :: _, _, h => h
  | _, [], h0, _ => nomatch h0

theorem nodup_eraseDups {β : Type} [BEq β] [LawfulBEq β] : ∀ (l : List β), l.eraseDups.Nodup
  | [] => List.nodup_nil
  | a :: as => by
    rw [List.eraseDups_cons, List.nodup_cons]
    refine ⟨?_, nodup_eraseDups _⟩
    rw [List.mem_eraseDups, List.mem_filter]
    simp
termination_by l => l.length
decreasing_by
  rw [List.length_cons]
  exact Nat.lt_succ_of_le (List.length_filter_le _ _)

variable {α : Type} [Inhabited α] [DecidableEq α]

/-- operands as `_Elemwise.__init__` leaves them: COO operands are in range with distinct stored indices -/
def Operand.WF : Operand α → Prop
  | .coo x => x.WF ∧ x.keys.Nodup
  | _ => True

/-- `fill_value_array`: one value per position of the dense operands' common shape -/
def fillArrOf (f : List α → α) (ops : List (Operand α)) (ndShape : List Nat) : List α :=
  (allIdx ndShape).map fun i => f (ops.map fun o => o.fillAt ndShape i)

def fillOf (f : List α → α) (ops : List (Operand α)) (ndShape : List Nat) : α :=
  (fillArrOf f ops ndShape).headD (f (ops.map fun o => match o with | .coo x => x.fill | _ => default))

def candsOf (ops : List (Operand α)) (shape : List Nat) : List Idx :=
  (ops.flatMap fun o => match o with
    | .coo x => (COO.expand x.entries x.shape shape).map (·.1)
    | _ => []).eraseDups

def entriesOf (f : List α → α) (ops : List (Operand α)) (shape : List Nat) (fill : α) : List (Idx × α) :=
  (candsOf ops shape).filterMap fun i =>
    let v := f (ops.map fun o => o.valueAt shape i)
    if v = fill then none else some (i, v)

/-- "a sparse result exists": the function of the fill values and the dense operands' values does
not depend on the position -/
def FillConst (f : List α → α) (ops : List (Operand α)) (ndShape : List Nat) : Prop :=
  ∀ i, InB i ndShape → ∀ i', InB i' ndShape →
    f (ops.map fun o => o.fillAt ndShape i) = f (ops.map fun o => o.fillAt ndShape i')

theorem elemwiseN_eq (f : List α → α) (ops : List (Operand α)) (shape ndShape : List Nat)
    (hc : ops.any Operand.isCoo = true) (hs : bshapeN (ops.map Operand.shape) = .ok shape)
    (hn : bshapeN ((ops.filter Operand.isDense).map Operand.shape) = .ok ndShape) :
    elemwiseN f ops =
      if (fillArrOf f ops ndShape).all (· = fillOf f ops ndShape) then
        if shape.any (· = 0) then .ok (.sparse { shape := shape, entries := [], fill := fillOf f ops ndShape })
        else .ok (.sparse { shape := shape, entries := COO.sortEntries shape (entriesOf f ops shape (fillOf f ops ndShape)), fill := fillOf f ops ndShape })
      else if shape = ndShape then
        .ok (.dense shape ((allIdx shape).map fun i => f (ops.map fun o => o.valueAt shape i)))
      else .error .value := by
  unfold elemwiseN
  simp only [hc, hs, hn]
  simp only [Bool.not_true, Bool.false_eq_true, if_false]
  rfl

theorem elemwiseN_no_coo (f : List α → α) (ops : List (Operand α)) (hc : ops.any Operand.isCoo = false) :
    elemwiseN f ops = .error .value := by
  unfold elemwiseN
  simp only [hc]
  rfl

theorem elemwiseN_shape_err (f : List α → α) (ops : List (Operand α)) (e : Err)
    (hc : ops.any Operand.isCoo = true) (hs : bshapeN (ops.map Operand.shape) = .error e) :
    elemwiseN f ops = .error .value := by
  rw [(bshapeN_error_iff_colOk.mp hs).1] at hs
  unfold elemwiseN
  simp only [hc, hs]
  simp only [Bool.not_true, Bool.false_eq_true, if_false]
  rfl

theorem fillConst_iff (f : List α → α) (ops : List (Operand α)) (ndShape : List Nat) :
    FillConst f ops ndShape ↔
      ∀ i, InB i ndShape → f (ops.map fun o => o.fillAt ndShape i) = fillOf f ops ndShape := by
  constructor
  · intro h i hi
    unfold fillOf fillArrOf
    cases hall : allIdx ndShape with
    | nil => exact absurd (mem_allIdx.mpr hi) (by rw [hall]; simp)
    | cons i0 rest => exact h i hi i0 (mem_allIdx.mp (by rw [hall]; simp))
  · intro h i hi i' hi'
    rw [h i hi, h i' hi']

theorem fillArr_all_iff (f : List α → α) (ops : List (Operand α)) (ndShape : List Nat) :
    ((fillArrOf f ops ndShape).all (· = fillOf f ops ndShape)) = true ↔ FillConst f ops ndShape := by
  simp only [List.all_eq_true, fillArrOf, List.forall_mem_map, mem_allIdx, decide_eq_true_eq]
  exact (fillConst_iff f ops ndShape).symm

theorem fillOf_eq (f : List α → α) (ops : List (Operand α)) (ndShape : List Nat)
    (h : FillConst f ops ndShape) {i : Idx} (hi : InB i ndShape) :
    fillOf f ops ndShape = f (ops.map fun o => o.fillAt ndShape i) :=
  ((fillConst_iff f ops ndShape).mp h i hi).symm

omit [Inhabited α] [DecidableEq α] in
theorem mem_candsOf {ops : List (Operand α)} {shape : List Nat} {j : Idx} :
    j ∈ candsOf ops shape ↔ ∃ x, Operand.coo x ∈ ops ∧ j ∈ COO.keysOf (COO.expand x.entries x.shape shape) := by
  unfold candsOf
  rw [List.mem_eraseDups, List.mem_flatMap]
  constructor
  · rintro ⟨o, ho, hj⟩
    cases o with
    | coo x => exact ⟨x, ho, hj⟩
    | dense _ _ => cases hj
    | scalar _ => cases hj
  · rintro ⟨x, hx, hj⟩
    exact ⟨.coo x, hx, hj⟩

theorem keysOf_entriesOf (f : List α → α) (ops : List (Operand α)) (shape : List Nat) (fill : α) :
    COO.keysOf (entriesOf f ops shape fill) =
      (candsOf ops shape).filter fun i => decide (f (ops.map fun o => o.valueAt shape i) ≠ fill) := by
  unfold entriesOf COO.keysOf
  rw [List.map_filterMap, ← List.filterMap_eq_filter]
  congr 1
  funext i
  by_cases h : f (ops.map fun o => o.valueAt shape i) = fill <;> simp [h, Option.guard]

theorem nodup_entriesOf (f : List α → α) (ops : List (Operand α)) (shape : List Nat) (fill : α) :
    (COO.keysOf (entriesOf f ops shape fill)).Nodup := by
  rw [keysOf_entriesOf]
  exact (nodup_eraseDups _).sublist List.filter_sublist

theorem mem_entriesOf {f : List α → α} {ops : List (Operand α)} {shape : List Nat} {fill : α} {e : Idx × α} :
    e ∈ entriesOf f ops shape fill ↔
      e.1 ∈ candsOf ops shape ∧ e.2 = f (ops.map fun o => o.valueAt shape e.1) ∧ e.2 ≠ fill := by
  unfold entriesOf
  rw [List.mem_filterMap]
  constructor
  · rintro ⟨i, hi, he⟩
    simp only at he
    split at he
    · cases he
    · next hne =>
      have := Option.some.inj he
      subst this
      exact ⟨hi, rfl, hne⟩
  · rintro ⟨h1, h2, h3⟩
    refine ⟨e.1, h1, ?_⟩
    simp only
    rw [← h2, if_neg h3]

theorem lookup_entriesOf (f : List α → α) (ops : List (Operand α)) (shape ndShape : List Nat)
    (hwf : ∀ o ∈ ops, o.WF)
    (hs : bshapeN (ops.map Operand.shape) = .ok shape)
    (hn : bshapeN ((ops.filter Operand.isDense).map Operand.shape) = .ok ndShape)
    (hconst : FillConst f ops ndShape) {j : Idx} (hj : InB j shape) :
    COO.lookup (entriesOf f ops shape (fillOf f ops ndShape)) (fillOf f ops ndShape) j =
      f (ops.map fun o => o.valueAt shape j) := by
  by_cases hc : j ∈ candsOf ops shape
  · by_cases hv : f (ops.map fun o => o.valueAt shape j) = fillOf f ops ndShape
    · rw [hv]
      apply COO.lookup_of_not_mem
      rw [keysOf_entriesOf, List.mem_filter]
      simp [hv]
    · exact COO.lookup_of_mem (nodup_entriesOf _ _ _ _) (mem_entriesOf.mpr ⟨hc, rfl, hv⟩)
  · rw [COO.lookup_of_not_mem (by rw [keysOf_entriesOf, List.mem_filter]; exact fun h => hc h.1)]
    -- `j` is stored by no sparse operand: every operand contributes what it contributes to the fill
    have hnd : BcTo ndShape shape := bcTo_sub hs hn (denseShapes_sub ops)
    have hi : InB (projIdx ndShape shape j) ndShape := projIdx_InB hnd hj
    rw [fillOf_eq f ops ndShape hconst hi]
    congr 1
    apply List.map_congr_left
    intro o ho
    cases o with
    | coo x =>
      simp only [Operand.fillAt, Operand.valueAt]
      have hb : BcTo x.shape shape := bcTo_of_bshapeN hs (List.mem_map.mpr ⟨_, ho, rfl⟩)
      have hx := hwf _ ho
      have hnk : j ∉ COO.keysOf (COO.expand x.entries x.shape shape) :=
        fun h => hc (mem_candsOf.mpr ⟨x, ho, h⟩)
      exact (COO.lookup_of_not_mem fun hk => hnk ((COO.mem_keys_expand hb hx.1 j).mpr ⟨hj, hk⟩)).symm
    | dense sh flat =>
      simp only [Operand.fillAt, Operand.valueAt]
      have hb : BcTo sh ndShape :=
        bcTo_of_bshapeN hn (List.mem_map.mpr ⟨_, List.mem_filter.mpr ⟨ho, rfl⟩, rfl⟩)
      rw [projIdx_comp hb hnd hj]
    | scalar v => rfl

theorem wf_entriesOf (f : List α → α) (ops : List (Operand α)) (shape : List Nat) (fill : α)
    (hwf : ∀ o ∈ ops, o.WF) (hs : bshapeN (ops.map Operand.shape) = .ok shape) :
    ∀ e ∈ entriesOf f ops shape fill, InB e.1 shape := by
  intro e he
  obtain ⟨x, hx, hk⟩ := mem_candsOf.mp (mem_entriesOf.mp he).1
  obtain ⟨e', he', hi⟩ := List.mem_map.mp hk
  have hb : BcTo x.shape shape := bcTo_of_bshapeN hs (List.mem_map.mpr ⟨_, hx, rfl⟩)
  rw [← hi]
  exact COO.wf_expand hb (hwf _ hx).1 e' he'

/-- the sparse branch; with an extent 0 nothing is stored, as no candidate position is in range -/
theorem elemwiseN_sparse_eq (f : List α → α) (ops : List (Operand α)) (shape ndShape : List Nat)
    (hwf : ∀ o ∈ ops, o.WF) (hc : ops.any Operand.isCoo = true)
    (hs : bshapeN (ops.map Operand.shape) = .ok shape)
    (hn : bshapeN ((ops.filter Operand.isDense).map Operand.shape) = .ok ndShape)
    (hconst : FillConst f ops ndShape) :
    elemwiseN f ops = .ok (.sparse ⟨shape,
      COO.sortEntries shape (entriesOf f ops shape (fillOf f ops ndShape)), fillOf f ops ndShape⟩) := by
  rw [elemwiseN_eq f ops shape ndShape hc hs hn, if_pos ((fillArr_all_iff f ops ndShape).mpr hconst)]
  split
  · next hz =>
    obtain ⟨d, hd, h0⟩ := List.any_eq_true.mp hz
    have h0 : 0 ∈ shape := of_decide_eq_true h0 ▸ hd
    rw [List.eq_nil_iff_forall_not_mem.mpr fun e he => not_InB_of_zero h0 (wf_entriesOf f ops shape _ hwf hs e he),
      COO.sortEntries, List.mergeSort_nil]
  · rfl

end SparseV
