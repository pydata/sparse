/-
  SparseV.Lemmas.Compress — the compressed (GCXS/CSR) storage: `uncompress ∘ cumsum ∘ bincount` is the
  identity on sorted row lists; gathers along a permutation and its inverse; the `[row, column]` key of a linear
  location and the index recovered from it (`unkey`); `transpose`; the `_from_coo` / `tocoo` chain.
-/
import SparseV.Lemmas.Build
import SparseV.Lemmas.Rewrite
import SparseV.Model.GcxsIndex
import SparseV.Props.C08
namespace SparseV
open COO

theorem sorted_split (R : Nat) : ∀ rows : List Nat, rows.Pairwise (· ≤ ·) →
    rows = rows.filter (· < R) ++ rows.filter (fun r => R ≤ r)
  | [], _ => rfl
  | a :: l, h => by
    obtain ⟨ha, hl⟩ := List.pairwise_cons.mp h
    by_cases haR : a < R
    · rw [List.filter_cons_of_pos (by simpa using haR), List.filter_cons_of_neg (by simpa using haR),
        List.cons_append, ← sorted_split R l hl]
    · -- the list is non-decreasing: everything from `a` on is at least `R`
      have hall : ∀ b ∈ a :: l, R ≤ b := fun b hb => by
        rcases List.mem_cons.mp hb with rfl | hb
        · omega
        · have := ha b hb
          omega
      rw [List.filter_eq_nil_iff.mpr fun b hb => by simpa using hall b hb,
        List.filter_eq_self.mpr fun b hb => by simpa using hall b hb, List.nil_append]

theorem uncompress_aux (rows : List Nat) (hs : rows.Pairwise (· ≤ ·)) : ∀ R : Nat,
    (List.range R).flatMap (fun i => List.replicate (countLt rows (i + 1) - countLt rows i) i) = rows.filter (· < R)
  | 0 => by simp
  | R + 1 => by
    have hsplit := sorted_split R (rows.filter (· < R + 1)) (hs.sublist List.filter_sublist)
    have h1 : (rows.filter (· < R + 1)).filter (· < R) = rows.filter (· < R) := by
      rw [List.filter_filter]
      apply List.filter_congr
      intro a _
      by_cases h : a < R
      · simp [h, Nat.lt_succ_of_lt h]
      · simp [h]
    have h2 : (rows.filter (· < R + 1)).filter (fun r => R ≤ r) =
        List.replicate (countLt rows (R + 1) - countLt rows R) R := by
      rw [List.eq_replicate_iff]
      constructor
      · have hlen := congrArg List.length hsplit
        rw [List.length_append, h1] at hlen
        unfold countLt
        omega
      · intro b hb
        have h3 := List.mem_filter.mp hb
        have h4 := (List.mem_filter.mp h3.1).2
        simp only [decide_eq_true_eq] at h3 h4
        omega
    rw [List.range_succ, List.flatMap_append, List.flatMap_singleton, uncompress_aux rows hs R, hsplit, h1, h2]

/-- **uncompress ∘ cumsum ∘ bincount = id** on non-decreasing row lists below `R` -/
theorem uncompress_indptrOf' (rows : List Nat) (R : Nat) (hs : rows.Pairwise (· ≤ ·))
    (hlt : ∀ r ∈ rows, r < R) : uncompress (indptrOf rows R) = rows := by
  have hall : rows.filter (· < R) = rows := List.filter_eq_self.mpr fun r hr => decide_eq_true (hlt r hr)
  unfold uncompress indptrOf
  rw [List.length_map, List.length_range, Nat.add_sub_cancel]
  refine Eq.trans (flatMap_congr' fun i hi => ?_) ((uncompress_aux rows hs R).trans hall)
  have hi' : i < R := List.mem_range.mp hi
  simp [List.getD_eq_getElem?_getD, hi', Nat.lt_succ_of_lt hi']

theorem gather_append (l p q : List Nat) : gather l (p ++ q) = gather l p ++ gather l q := List.map_append

theorem gather_range_of_lt (n : Nat) (r : List Nat) (h : ∀ a ∈ r, a < n) : gather (List.range n) r = r := by
  unfold gather
  conv => rhs; rw [← List.map_id r]
  apply List.map_congr_left
  intro a ha
  have := h a ha
  simp [List.getD_eq_getElem?_getD, this]

theorem map_idxOf_self {p : List Nat} (hnd : p.Nodup) : p.map (fun a => p.idxOf a) = List.range p.length := by
  apply List.ext_getElem
  · rw [List.length_map, List.length_range]
  · intro k h1 _
    rw [List.getElem_map, List.getElem_range]
    exact hnd.idxOf_getElem k (List.length_map (as := p) _ ▸ h1)

theorem invPerm_perm {p : List Nat} {n : Nat} (hp : p.Perm (List.range n)) :
    (invPerm p).Perm (List.range n) := by
  obtain ⟨rfl, hnd, _⟩ := perm_range_facts hp
  have h := (hp.map fun a => p.idxOf a).symm
  rwa [map_idxOf_self hnd] at h

theorem invPerm_invPerm {p : List Nat} {n : Nat} (hp : p.Perm (List.range n)) : invPerm (invPerm p) = p := by
  have hq := invPerm_perm hp
  have hqq := invPerm_perm hq
  obtain ⟨hlen, _, hmem⟩ := perm_range_facts hp
  obtain ⟨_, _, hmem2⟩ := perm_range_facts hqq
  -- read `range n` through both
  have e1 : gather (List.range n) p = p := gather_range_of_lt n p (fun a ha => (hmem a).mp ha)
  have e2 : gather (List.range n) (invPerm (invPerm p)) = invPerm (invPerm p) :=
    gather_range_of_lt n _ (fun a ha => (hmem2 a).mp ha)
  have hl : (gather (List.range n) p).length = n := by rw [length_gather, hlen]
  have r1 := gather_gather_invPerm hp (i := List.range n) (by simp)
  have a2 := gather_gather_invPerm hq hl
  rw [r1] at a2
  rw [← e2, a2, e1]

theorem InB_gather_perm {i s p : List Nat} (hp : p.Perm (List.range s.length)) (h : InB i s) :
    InB (gather i p) (gather s p) :=
  InB_gather h fun a ha => ((perm_range_facts hp).2.2 a).mp ha

theorem unlin_lin {shape order : List Nat} (hperm : order.Perm (List.range shape.length)) {i : Idx} (hi : InB i shape) :
    gather (unravel (ravel (gather i order) (gather shape order)) (gather shape order)) (invPerm order) = i := by
  rw [unravel_ravel (InB_gather_perm hperm hi)]
  exact gather_gather_invPerm hperm (InB_length hi)

theorem lin_unlin {shape order : List Nat} (hperm : order.Perm (List.range shape.length)) {q : Nat}
    (hq : q < prod (gather shape order)) :
    InB (gather (unravel q (gather shape order)) (invPerm order)) shape ∧
    ravel (gather (gather (unravel q (gather shape order)) (invPerm order)) order) (gather shape order) = q := by
  have hu := unravel_InB _ _ hq
  refine ⟨InB_gather_invPerm hperm hu, ?_⟩
  rw [gather_invPerm_gather hperm (by rw [InB_length hu, length_gather, (perm_range_facts hperm).1]),
    ravel_unravel _ _ hq]

theorem divmod_lt {q R C : Nat} (h : q < R * C) : q / C < R ∧ q % C < C :=
  ⟨Nat.div_lt_of_lt_mul (Nat.mul_comm R C ▸ h),
   Nat.mod_lt _ (Nat.pos_of_ne_zero fun h0 => by rw [h0, Nat.mul_zero] at h; exact Nat.not_lt_zero _ h)⟩

theorem divmod_of_lt (r x C : Nat) (h : x < C) : (r * C + x) / C = r ∧ (r * C + x) % C = x := by
  have hC : 0 < C := Nat.zero_lt_of_lt h
  constructor
  · rw [Nat.add_comm, Nat.add_mul_div_right _ _ hC, Nat.div_eq_of_lt h, Nat.zero_add]
  · rw [Nat.add_comm, Nat.add_mul_mod_self_right, Nat.mod_eq_of_lt h]

theorem divmod_inj {a b C : Nat} (h : [a / C, a % C] = [b / C, b % C]) : a = b := by
  rw [← Nat.div_add_mod a C, ← Nat.div_add_mod b C, (List.cons.inj h).1, (List.cons.inj (List.cons.inj h).2).1]

theorem mul_add_lt {r c R C : Nat} (hr : r < R) (hc : c < C) : r * C + c < R * C :=
  Nat.lt_of_lt_of_le (Nat.add_lt_add_left hc _) (by rw [← Nat.succ_mul]; exact Nat.mul_le_mul_right C hr)

/-- the index whose linear location under the axis order `order` has row `k[0]` and column `k[1]` in the view with `C`
columns -/
def unkey (shape order : List Nat) (C : Nat) (k : Idx) : Idx :=
  gather (unravel (k.getD 0 0 * C + k.getD 1 0) (gather shape order)) (invPerm order)

theorem unkey_key {shape order : List Nat} (hperm : order.Perm (List.range shape.length)) (C : Nat) {i : Idx}
    (hi : InB i shape) :
    unkey shape order C [ravel (gather i order) (gather shape order) / C, ravel (gather i order) (gather shape order) % C]
      = i := by
  show gather (unravel (_ / C * C + _ % C) _) _ = i
  rw [Nat.div_add_mod']
  exact unlin_lin hperm hi

theorem key_unkey {shape order : List Nat} (hperm : order.Perm (List.range shape.length)) {R C : Nat}
    (hRC : R * C = prod (gather shape order)) : ∀ {k : Idx}, InB k [R, C] → InB (unkey shape order C k) shape ∧
      [ravel (gather (unkey shape order C k) order) (gather shape order) / C,
        ravel (gather (unkey shape order C k) order) (gather shape order) % C] = k
  | [r, c], ⟨hr, hc, _⟩ => by
    obtain ⟨h1, h2⟩ := lin_unlin hperm (q := r * C + c) (hRC ▸ mul_add_lt hr hc)
    obtain ⟨e1, e2⟩ := divmod_of_lt r c C hc
    exact ⟨h1, by rw [show ravel (gather (unkey shape order C [r, c]) order) (gather shape order) = r * C + c from h2,
      e1, e2]⟩

namespace COO
variable {α : Type}

theorem transposeCore_shape (x : COO α) (axes : List Nat) :
    (x.transposeCore axes).shape = gather x.shape axes ∧ (x.transposeCore axes).fill = x.fill := by
  unfold transposeCore
  by_cases h : axes = List.range x.shape.length
  · simp only [h, if_true, and_true]
    exact (gather_range_self x.shape).symm
  · simp only [h, if_false, and_true]

theorem transposeCore_get (x : COO α) (axes : List Nat) (hp : axes.Perm (List.range x.shape.length))
    (hwf : x.WF) (hnd : (keysOf x.entries).Nodup) (j : Idx) (hj : InB j (gather x.shape axes)) :
    (x.transposeCore axes).get j = x.get (gather j (invPerm axes)) :=
  (C08.transpose_get x axes hp hwf hnd j hj).1

theorem transposeCore_wf (x : COO α) (axes : List Nat) (hp : axes.Perm (List.range x.shape.length))
    (hwf : x.WF) : (x.transposeCore axes).WF := by
  obtain ⟨_, _, hmem⟩ := perm_range_facts hp
  unfold transposeCore
  by_cases h : axes = List.range x.shape.length
  · simp only [h, if_true]; exact hwf
  · simp only [h, if_false]
    intro e he
    simp only at he ⊢
    obtain ⟨e0, he0, rfl⟩ := List.mem_map.mp (mem_sortEntries.mp he)
    exact InB_gather (hwf e0 he0) (fun a ha => (hmem a).mp ha)

theorem transposeCore_nodup (x : COO α) (axes : List Nat) (hp : axes.Perm (List.range x.shape.length))
    (hwf : x.WF) (hnd : (keysOf x.entries).Nodup) : (keysOf (x.transposeCore axes).entries).Nodup := by
  unfold transposeCore
  by_cases h : axes = List.range x.shape.length
  · simp only [h, if_true]; exact hnd
  · simp only [h, if_false]
    apply nodup_sortEntries
    rw [mapIdx_eq_rewrite]
    refine rewrite_nodup _ _ (fun j => gather j (invPerm axes)) ?_ hnd
    intro e he j' hg
    simp only [Option.some.injEq] at hg
    rw [← hg]
    exact gather_gather_invPerm hp (InB_length (hwf e he))

theorem reshapeCore_nodup (x : COO α) (s : List Nat) (hwf : x.WF) (hsize : prod x.shape = prod s)
    (hnd : (keysOf x.entries).Nodup) : (keysOf (x.reshapeCore s).entries).Nodup := by
  unfold reshapeCore
  by_cases hs : x.shape = s
  · simp only [hs, if_true]; exact hnd
  · simp only [hs, if_false]
    rw [mapIdx_eq_rewrite]
    refine rewrite_nodup _ _ (fun j => unravel (ravel j s) x.shape) ?_ hnd
    intro e he j' hg
    have hin : InB e.1 x.shape := hwf e he
    have hlt : ravel e.1 x.shape < prod s := hsize ▸ ravel_lt hin
    simp only [Option.some.injEq] at hg
    rw [← hg, ravel_unravel s _ hlt, unravel_ravel hin]

end COO

theorem axisOrder_perm (n : Nat) (caxes : List Nat) (hnd : caxes.Nodup) (hlt : ∀ a ∈ caxes, a < n) :
    (axisOrder n caxes).Perm (List.range n) := by
  unfold axisOrder restAxes
  have h1 := List.filter_append_perm (fun a => caxes.contains a) (List.range n)
  have h2 : ((List.range n).filter (fun a => caxes.contains a)).Perm caxes := by
    rw [List.perm_ext_iff_of_nodup (List.Pairwise.filter _ List.nodup_range) hnd]
    intro a
    simp only [List.mem_filter, List.mem_range, List.contains_iff_mem]
    exact ⟨fun h => h.2, fun h => ⟨hlt a h, h⟩⟩
  exact (h2.symm.append_right _).trans h1

namespace GCXS

/-- the (row-major, under the axis order) sorted linear-location listing `_from_coo` builds -/
def csSorted (x : COO Int) (caxes : List Nat) : List (Nat × Int) :=
  let order := axisOrder x.shape.length caxes
  let rshape := gather x.shape order
  (x.entries.map fun e => (ravel (gather e.1 order) rshape, e.2)).mergeSort fun a b => decide (a.1 ≤ b.1)

/-- the 2-d entries `tocoo` hands to the COO constructor -/
def csEs (x : COO Int) (caxes : List Nat) : List (Idx × Int) :=
  (csSorted x caxes).map fun e => ([e.1 / csrC x.shape caxes, e.1 % csrC x.shape caxes], e.2)

/-- linear location of an n-d index in the CSR view (`ravel` under the axis order) -/
def linOf (shape caxes : List Nat) (i : Idx) : Nat :=
  ravel (gather i (axisOrder shape.length caxes)) (gather shape (axisOrder shape.length caxes))

/-- the `[row, column]` coordinate of an index in the compressed view -/
def gKey (shape caxes : List Nat) (k : Idx) : Idx :=
  [linOf shape caxes k / csrC shape caxes, linOf shape caxes k % csrC shape caxes]

theorem csrR_mul_csrC (shape caxes : List Nat) :
    csrR shape caxes * csrC shape caxes = prod (gather shape (axisOrder shape.length caxes)) := by
  unfold csrR csrC
  rw [← prod_append, List.take_append_drop]

theorem linOf_lt (shape c : List Nat) (hperm : (axisOrder shape.length c).Perm (List.range shape.length)) {i : Idx}
    (hi : InB i shape) : linOf shape c i < csrR shape c * csrC shape c := by
  rw [csrR_mul_csrC]
  exact ravel_lt (InB_gather_perm hperm hi)

theorem csSorted_facts (x : COO Int) (caxes : List Nat) (hwf : x.WF)
    (hperm : (axisOrder x.shape.length caxes).Perm (List.range x.shape.length)) :
    (csSorted x caxes).Perm (x.entries.map fun e => (linOf x.shape caxes e.1, e.2)) ∧
    ((csSorted x caxes).map (·.1)).Pairwise (· ≤ ·) ∧
    ∀ e ∈ csSorted x caxes, e.1 < csrR x.shape caxes * csrC x.shape caxes := by
  have hp : (csSorted x caxes).Perm (x.entries.map fun e => (linOf x.shape caxes e.1, e.2)) :=
    List.mergeSort_perm _ _
  refine ⟨hp, ?_, ?_⟩
  · rw [List.pairwise_map]
    have h := List.pairwise_mergeSort
      (le := fun (a b : Nat × Int) => decide (a.1 ≤ b.1))
      (fun a b c hab hbc => by simp only [decide_eq_true_eq] at *; omega)
      (fun a b => by simp only [Bool.or_eq_true, decide_eq_true_eq]; omega)
      (x.entries.map fun e => (linOf x.shape caxes e.1, e.2))
    exact h.imp (fun hab => by simpa using hab)
  · intro e he
    obtain ⟨e0, he0, rfl⟩ := List.mem_map.mp (hp.mem_iff.mp he)
    exact linOf_lt x.shape caxes hperm (hwf e0 he0)

theorem fromCooCore_eq (x : COO Int) (caxes : List Nat) :
    fromCooCore x caxes =
      { shape := x.shape, caxes := some caxes,
        indptr := indptrOf ((csSorted x caxes).map fun e => e.1 / csrC x.shape caxes) (csrR x.shape caxes),
        indices := (csSorted x caxes).map fun e => e.1 % csrC x.shape caxes,
        data := (csSorted x caxes).map (·.2), fill := x.fill } := rfl

theorem tocoo_fromCooCore_eq (x : COO Int) (caxes : List Nat) (hwf : x.WF)
    (hperm : (axisOrder x.shape.length caxes).Perm (List.range x.shape.length)) :
    (fromCooCore x caxes).tocoo =
      ((COO.build [csrR x.shape caxes, csrC x.shape caxes] (csEs x caxes) x.fill).reshapeCore
        (gather x.shape (axisOrder x.shape.length caxes))).transposeCore
          (invPerm (axisOrder x.shape.length caxes)) := by
  obtain ⟨_, hsorted, hlt⟩ := csSorted_facts x caxes hwf hperm
  have hrows : uncompress (indptrOf ((csSorted x caxes).map fun e => e.1 / csrC x.shape caxes) (csrR x.shape caxes))
      = (csSorted x caxes).map fun e => e.1 / csrC x.shape caxes := by
    apply uncompress_indptrOf'
    · rw [List.pairwise_map] at hsorted ⊢
      exact hsorted.imp fun h => Nat.div_le_div_right h
    · intro r hr
      obtain ⟨e, he, rfl⟩ := List.mem_map.mp hr
      exact (divmod_lt (hlt e he)).1
  rw [fromCooCore_eq]
  unfold tocoo
  simp only []
  rw [hrows, List.zip_map', List.zip_map', List.map_map]
  rfl

theorem gKey_InB (x : COO Int) (caxes : List Nat)
    (hperm : (axisOrder x.shape.length caxes).Perm (List.range x.shape.length)) {k : Idx}
    (hk : InB k x.shape) : InB (gKey x.shape caxes k) [csrR x.shape caxes, csrC x.shape caxes] := by
  have hlt := linOf_lt x.shape caxes hperm hk
  exact ⟨(divmod_lt hlt).1, (divmod_lt hlt).2, trivial⟩

theorem csEs_perm (x : COO Int) (caxes : List Nat) (hwf : x.WF)
    (hperm : (axisOrder x.shape.length caxes).Perm (List.range x.shape.length)) :
    (csEs x caxes).Perm (mapIdx (gKey x.shape caxes) x.entries) := by
  have h := ((csSorted_facts x caxes hwf hperm).1).map
    (fun e : Nat × Int => (([e.1 / csrC x.shape caxes, e.1 % csrC x.shape caxes], e.2) : Idx × Int))
  rw [List.map_map] at h
  exact h

theorem csEs_facts (x : COO Int) (caxes : List Nat) (hwf : x.WF) (hnd : (keysOf x.entries).Nodup)
    (hperm : (axisOrder x.shape.length caxes).Perm (List.range x.shape.length)) :
    (∀ e ∈ csEs x caxes, InB e.1 [csrR x.shape caxes, csrC x.shape caxes]) ∧ (keysOf (csEs x caxes)).Nodup ∧
    ∀ (d : Int) (i : Idx), InB i x.shape → lookup (csEs x caxes) d (gKey x.shape caxes i) = lookup x.entries d i := by
  have hp := csEs_perm x caxes hwf hperm
  have hinv : ∀ e ∈ x.entries, ∀ j', some (gKey x.shape caxes e.1) = some j' → unkey x.shape _ (csrC x.shape caxes) j' = e.1 :=
    fun e he j' hg => by cases hg; exact unkey_key hperm _ (hwf e he)
  have hnd2 : (keysOf (csEs x caxes)).Nodup :=
    (List.Perm.map (fun e : Idx × Int => e.1) hp).nodup_iff.mpr
      (mapIdx_eq_rewrite (gKey x.shape caxes) x.entries ▸ rewrite_nodup _ _ _ hinv hnd)
  refine ⟨?_, hnd2, ?_⟩
  · intro e he
    obtain ⟨e0, he0, rfl⟩ := List.mem_map.mp (hp.mem_iff.mp he)
    exact gKey_InB x caxes hperm (hwf e0 he0)
  · intro d i hi
    rw [lookup_perm d _ hnd2 hp, mapIdx_eq_rewrite,
      rewrite_lookup _ d _ _ (gKey x.shape caxes i) hinv (by rw [show unkey x.shape _ (csrC x.shape caxes) (gKey x.shape caxes i) = i from
        unkey_key hperm _ hi])]
    exact congrArg _ (unkey_key hperm _ hi)

theorem build_good (shape : List Nat) (es : List (Idx × Int)) (fill : Int)
    (hwf : ∀ e ∈ es, InB e.1 shape) (hnd : (keysOf es).Nodup) :
    (COO.build shape es fill).shape = shape ∧ (COO.build shape es fill).fill = fill ∧
    (COO.build shape es fill).WF ∧ (keysOf (COO.build shape es fill).entries).Nodup ∧
    ∀ i, (COO.build shape es fill).get i = lookup es fill i := by
  have h := build_wf_sorted shape es fill false hwf
  exact ⟨rfl, rfl, h.1, sortedLin_keys_nodup _ _ h.2, fun i => build_lookup_nodup shape es fill false hwf hnd i⟩

/-- what `tocoo` assembles (reshape to the permuted shape, then undo the axis permutation) from in-range,
pairwise distinct entries of an `R × C` matrix -/
theorem unflatten (shape order : List Nat) (hperm : order.Perm (List.range shape.length)) (R C : Nat)
    (hRC : R * C = prod (gather shape order)) (es : List (Idx × Int)) (fill : Int)
    (hin : ∀ e ∈ es, InB e.1 [R, C]) (hnd : (keysOf es).Nodup) :
    let y := ((COO.build [R, C] es fill).reshapeCore (gather shape order)).transposeCore (invPerm order)
    y.shape = shape ∧ y.fill = fill ∧ y.WF ∧ (keysOf y.entries).Nodup ∧
    ∀ i, InB i shape → y.get i = lookup es fill
      [ravel (gather i order) (gather shape order) / C, ravel (gather i order) (gather shape order) % C] := by
  obtain ⟨hs2, hf2, hwf2, hnd2, hget2⟩ := build_good [R, C] es fill hin hnd
  generalize COO.build [R, C] es fill = c2 at hs2 hf2 hwf2 hnd2 hget2
  have hsize : prod c2.shape = prod (gather shape order) := by
    rw [hs2, ← hRC, prod, prod, prod, Nat.mul_one]
  obtain ⟨hsh1, hfl1, hwf1⟩ := COO.reshapeCore_facts c2 (gather shape order) hwf2 hsize
  have hnd1 := reshapeCore_nodup c2 _ hwf2 hsize hnd2
  have hget1 := fun j hj => (SparseV.C08.reshape_get c2 _ hwf2 hsize j hj).1
  generalize c2.reshapeCore (gather shape order) = y1 at hsh1 hfl1 hwf1 hnd1 hget1
  have hqperm : (invPerm order).Perm (List.range y1.shape.length) := by
    rw [hsh1, length_gather, (perm_range_facts hperm).1]
    exact invPerm_perm hperm
  have hback : gather y1.shape (invPerm order) = shape := by
    rw [hsh1]
    exact gather_gather_invPerm hperm rfl
  have hsh := transposeCore_shape y1 (invPerm order)
  refine ⟨hsh.1.trans hback, hsh.2.trans (hfl1.trans hf2), transposeCore_wf _ _ hqperm hwf1,
    transposeCore_nodup _ _ hqperm hwf1 hnd1, fun i hi => ?_⟩
  rw [transposeCore_get y1 _ hqperm hwf1 hnd1 i (hback.symm ▸ hi), invPerm_invPerm hperm,
    hget1 _ (InB_gather_perm hperm hi), hget2, hs2]
  simp only [unravel, prod, Nat.mul_one, Nat.div_one]

/-- `tocoo ∘ _from_coo` is lossless, for any duplicate-free list of in-range compressed axes -/
theorem tocoo_fromCooCore (x : COO Int) (caxes : List Nat) (hwf : x.WF) (hnd : (keysOf x.entries).Nodup)
    (hcnd : caxes.Nodup) (hclt : ∀ a ∈ caxes, a < x.shape.length) :
    (fromCooCore x caxes).tocoo.shape = x.shape ∧ (fromCooCore x caxes).tocoo.fill = x.fill ∧
    (fromCooCore x caxes).tocoo.WF ∧ (keysOf (fromCooCore x caxes).tocoo.entries).Nodup ∧
    ∀ i, InB i x.shape → (fromCooCore x caxes).tocoo.get i = x.get i := by
  have hperm := axisOrder_perm x.shape.length caxes hcnd hclt
  obtain ⟨hes_in, hes_nd, hes_lk⟩ := csEs_facts x caxes hwf hnd hperm
  rw [tocoo_fromCooCore_eq x caxes hwf hperm]
  obtain ⟨h1, h2, h3, h4, h5⟩ := unflatten x.shape _ hperm _ _ (csrR_mul_csrC x.shape caxes) (csEs x caxes) x.fill
    hes_in hes_nd
  exact ⟨h1, h2, h3, h4, fun i hi => (h5 i hi).trans (hes_lk x.fill i hi)⟩

theorem foldl_min_mem : ∀ (l : List Nat) (a : Nat), l.foldl min a = a ∨ l.foldl min a ∈ l
  | [], a => Or.inl rfl
  | b :: l, a => by
    rw [List.foldl_cons]
    rcases foldl_min_mem l (min a b) with h | h
    · rw [h]
      rcases Nat.le_total a b with hab | hab
      · rw [Nat.min_eq_left hab]; exact Or.inl rfl
      · rw [Nat.min_eq_right hab]; exact Or.inr List.mem_cons_self
    · exact Or.inr (List.mem_cons_of_mem _ h)

/-- the default compressed axis (the first axis of smallest extent) is an axis -/
theorem minAxis_lt (shape : List Nat) (h : 0 < shape.length) :
    shape.idxOf (shape.foldl min (shape.getD 0 0)) < shape.length := by
  apply List.idxOf_lt_length_of_mem
  rcases foldl_min_mem shape (shape.getD 0 0) with h' | h'
  · rw [h']
    exact getD_mem _ _ _ h
  · exact h'

/-- 0-d: `_from_coo` keeps the values alone and `tocoo` hands the entries to the COO constructor as they are -/
theorem tocoo_rank0 (x : COO Int) (hwf : x.WF) (hlen : x.shape.length = 0) :
    (GCXS.mk x.shape none [] [] x.vals x.fill).tocoo = COO.build x.shape x.entries x.fill := by
  have hes : (x.vals.map fun d => (([] : Idx), d)) = x.entries := by
    rw [COO.vals, List.map_map]
    refine (List.map_congr_left fun e he => ?_).trans (List.map_id _)
    have hin : InB e.1 x.shape := hwf e he
    rw [List.length_eq_zero_iff.mp hlen] at hin
    match e, hin with
    | ([], _), _ => rfl
  unfold tocoo
  simp only [hlen, if_true, hes]

/-- 1-d: the coordinates and the values are kept, and `tocoo` pairs them up again -/
theorem tocoo_rank1 (x : COO Int) (hwf : x.WF) (hlen : x.shape.length = 1) :
    (GCXS.mk x.shape none [] (x.keys.map fun k => k.getD 0 0) x.vals x.fill).tocoo =
      COO.build x.shape x.entries x.fill := by
  have hes : (((x.keys.map fun k => k.getD 0 0).zip x.vals).map fun p => ([p.1], p.2)) = x.entries := by
    rw [COO.vals, COO.keys, List.map_map, List.zip_map', List.map_map]
    refine (List.map_congr_left fun e he => ?_).trans (List.map_id _)
    have hin : InB e.1 x.shape := hwf e he
    obtain ⟨d, hs⟩ := List.length_eq_one_iff.mp hlen
    rw [hs] at hin
    match e, hin with
    | ([_], _), _ => rfl
  unfold tocoo
  simp only [hlen, Nat.succ_ne_zero, if_false, hes]

/-- `tocoo ∘ _from_coo` is lossless: all ranks, every accepted `compressed_axes` including the default -/
theorem tocoo_fromCoo (x : COO Int) (c : Option (List Nat)) (g : GCXS Int) (h : fromCoo x c = .ok g)
    (hwf : x.WF) (hnd : (keysOf x.entries).Nodup) :
    g.tocoo.shape = x.shape ∧ g.tocoo.fill = x.fill ∧ g.tocoo.WF ∧ (keysOf g.tocoo.entries).Nodup ∧
    ∀ i, InB i x.shape → g.tocoo.get i = x.get i := by
  have low : g.tocoo = COO.build x.shape x.entries x.fill → g.tocoo.shape = x.shape ∧ g.tocoo.fill = x.fill ∧
      g.tocoo.WF ∧ (keysOf g.tocoo.entries).Nodup ∧ ∀ i, InB i x.shape → g.tocoo.get i = x.get i := by
    intro e
    rw [e]
    obtain ⟨h1, h2, h3, h4, h5⟩ := build_good x.shape x.entries x.fill hwf hnd
    exact ⟨h1, h2, h3, h4, fun i _ => h5 i⟩
  unfold fromCoo at h
  split at h
  · rename_i hlen
    cases c with
    | some _ => cases h
    | none =>
      cases h
      exact low (tocoo_rank0 x hwf hlen)
  · rename_i hlen
    cases c with
    | some _ => cases h
    | none =>
      cases h
      exact low (tocoo_rank1 x hwf hlen)
  · rename_i n hlen
    cases c with
    | none =>
      cases h
      refine tocoo_fromCooCore x _ hwf hnd (List.pairwise_singleton _ _) fun a ha => ?_
      rw [List.mem_singleton.mp ha]
      exact minAxis_lt x.shape (by omega)
    | some cx =>
      simp only at h
      by_cases h1 : cx.length ≥ n + 2
      · rw [if_pos h1] at h
        cases h
      rw [if_neg h1] at h
      by_cases h2 : (!decide (cx.Pairwise (· < ·))) = true
      · rw [if_pos h2] at h
        cases h
      rw [if_neg h2] at h
      by_cases h3 : (cx.any (· ≥ n + 2)) = true
      · rw [if_pos h3] at h
        cases h
      rw [if_neg h3] at h
      cases h
      have hpw : cx.Pairwise (· < ·) := by simpa using h2
      refine tocoo_fromCooCore x cx hwf hnd (hpw.imp Nat.ne_of_lt) fun a ha => ?_
      simp only [List.any_eq_true, decide_eq_true_eq, not_exists, not_and] at h3
      have := h3 a ha
      omega

end GCXS

end SparseV
