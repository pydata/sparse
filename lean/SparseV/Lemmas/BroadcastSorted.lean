/-
  The `sorted=` claim of `broadcast_to`: when the non-broadcast axes are adjacent,
  `_get_expanded_coords_data` emits the entries of a sorted operand in sorted order.
-/
import SparseV.Lemmas.Broadcast
namespace SparseV

/-! ## the layouts for which the claim holds: broadcast* non-broadcast* broadcast* -/

/-- after the block of non-broadcast axes: only broadcast axes may follow -/
def form2 : List Bool → Bool
  | [] => true
  | true :: _ => false
  | false :: r => form2 r
/-- inside the block of non-broadcast axes -/
def form1 : List Bool → Bool
  | [] => true
  | true :: r => form1 r
  | false :: r => form2 r
/-- before the block -/
def form0 : List Bool → Bool
  | [] => true
  | true :: r => form1 r
  | false :: r => form0 r

def flagsOf (ps : List (Option Bool × Nat)) : List Bool := (ps.map Prod.fst).map (· == some true)

theorem flagsOf_cons (p : Option Bool × Nat) (ps : List (Option Bool × Nat)) :
    flagsOf (p :: ps) = (p.1 == some true) :: flagsOf ps := rfl

theorem flagsOf_lead {src dst : List Nat} (b : Nat) (h : src.length ≤ dst.length) :
    flagsOf ((bparams src (b :: dst)).zip (b :: dst)) = false :: flagsOf ((bparams src dst).zip dst) := by
  rw [bparams_cons_none b h, List.zip_cons_cons, flagsOf_cons]
  rfl

theorem flagsOf_both {src dst : List Nat} (a b : Nat) (h : src.length = dst.length) :
    flagsOf ((bparams (a :: src) (b :: dst)).zip (b :: dst)) = decide (a = b) :: flagsOf ((bparams src dst).zip dst) := by
  rw [bparams_cons_some a b h, List.zip_cons_cons, flagsOf_cons]
  by_cases hab : a = b <;> simp [hab]

/-- after the block the operand has extent 1 on every axis, hence one index only -/
theorem eq_of_form2 {src dst : List Nat} (hb : BcTo src dst) {l l' : Idx}
    (hf : form2 (flagsOf ((bparams src dst).zip dst)) = true) (h : InB l src) (h' : InB l' src) : l = l' := by
  induction hb generalizing l l' with
  | nil => exact (InB_nil_right h).trans (InB_nil_right h').symm
  | lead b hb ih =>
    rw [flagsOf_lead b hb.length_le] at hf
    exact ih hf h h'
  | @both a b src dst hab hl _ ih =>
    rw [flagsOf_both a b hl] at hf
    by_cases hab' : a = b
    · rw [decide_eq_true hab'] at hf
      exact absurd hf Bool.false_ne_true
    · rw [decide_eq_false hab'] at hf
      obtain rfl := hab.resolve_left hab'
      cases l with
      | nil => exact absurd h (InB_nil_cons _ _)
      | cons c l =>
      cases l' with
      | nil => exact absurd h' (InB_nil_cons _ _)
      | cons c' l' => rw [ih hf h.2 h'.2, Nat.lt_one_iff.mp h.1, Nat.lt_one_iff.mp h'.1]

theorem not_lt_of_form2 {src dst : List Nat} (hb : BcTo src dst) {j j' : Idx}
    (hf : form2 (flagsOf ((bparams src dst).zip dst)) = true) (hj : InB j dst) (hj' : InB j' dst) :
    ¬ projIdx src dst j < projIdx src dst j' := by
  rw [eq_of_form2 hb hf (projIdx_InB hb hj) (projIdx_InB hb hj')]
  exact List.lt_irrefl _

/-- inside the block: a smaller operand index comes from smaller result indices only, whatever the broadcast
coordinates -/
theorem lt_of_form1 {src dst : List Nat} (hb : BcTo src dst) {j j' : Idx}
    (hf : form1 (flagsOf ((bparams src dst).zip dst)) = true) (hj : InB j dst) (hj' : InB j' dst)
    (hlt : projIdx src dst j < projIdx src dst j') : j < j' := by
  induction hb generalizing j j' with
  | nil => exact absurd hlt (List.lt_irrefl _)
  | lead b hb _ =>
    -- the block has ended
    refine absurd hlt (not_lt_of_form2 (.lead b hb) ?_ hj hj')
    rw [flagsOf_lead b hb.length_le] at hf ⊢
    exact hf
  | @both a b src dst hab hl hb ih =>
    by_cases hab' : a = b
    · subst hab'
      rw [flagsOf_both a a hl, decide_eq_true rfl] at hf
      cases j with
      | nil => exact absurd hj (InB_nil_cons _ _)
      | cons x j =>
      cases j' with
      | nil => exact absurd hj' (InB_nil_cons _ _)
      | cons x' j' =>
        rw [projIdx_cons_same j hl hj.1, projIdx_cons_same j' hl hj'.1, List.cons_lt_cons_iff] at hlt
        exact List.cons_lt_cons_iff.mpr (hlt.imp_right fun ⟨he, hlt⟩ => ⟨he, ih hf hj.2 hj'.2 hlt⟩)
    · refine absurd hlt (not_lt_of_form2 (.both hab hl hb) ?_ hj hj')
      rw [flagsOf_both a b hl, decide_eq_false hab'] at hf ⊢
      exact hf

namespace COO
variable {α : Type}

instance (s : List Nat) (es : List (Idx × α)) : Decidable (SortedLin s es) := by
  unfold SortedLin; infer_instance

theorem sortedLin_iff_lex {s : List Nat} {es : List (Idx × α)} (hwf : ∀ e ∈ es, InB e.1 s) :
    SortedLin s es ↔ KeyRel (· < ·) es := by
  unfold SortedLin lin KeyRel
  rw [List.pairwise_map]
  exact ⟨fun h => h.imp_of_mem fun ha hb hab => lex_of_ravel_lt (hwf _ ha) (hwf _ hb) hab,
    fun h => h.imp_of_mem fun ha hb hab => ravel_lt_of_lex (hwf _ ha) (hwf _ hb) hab⟩

theorem lexSorted_expandGo_none {src dst : List Nat} (hb : BcTo src dst) (es : List (Idx × α)) :
    ∀ d, form0 (flagsOf ((bparams src dst).zip dst)) = true → (∀ e ∈ es, InB (e.1.drop d) src) →
      es.Pairwise (fun e e' => e.1.drop d < e'.1.drop d) →
      KeyRel (· < ·) (expandGo ((bparams src dst).zip dst) d none es) := by
  induction hb with
  | nil =>
    intro d _ hwf h
    unfold KeyRel
    rw [show (bparams [] []).zip [] = [] from rfl, expandGo, List.pairwise_map]
    refine h.imp_of_mem fun {a b} ha hb hab => ?_
    rw [InB_nil_right (hwf a ha), InB_nil_right (hwf b hb)] at hab
    exact absurd hab (List.lt_irrefl _)
  | lead b hb ih =>
    intro d hf hwf h
    rw [flagsOf_lead b hb.length_le] at hf
    rw [bparams_cons_none b hb.length_le, List.zip_cons_cons, expandGo]
    exact (ih d hf hwf h).range_flatMap loopRel_lt b
  | @both a b src dst hab hl hb ih =>
    intro d hf hwf h
    have hwf' := fun e he => drop_cons_of_InB (hwf e he)
    rw [flagsOf_both a b hl] at hf
    by_cases hab' : a = b
    · have key := fun e he (x : Idx × α) => (mem_expandGo_some (.both hab hl hb) es e d x.1 x.2 (hwf e he)).mp
      have hlt := fun {j j'} => lt_of_form1 (.both hab hl hb) (j := j) (j' := j')
        (by rw [flagsOf_both a b hl, decide_eq_true hab']; rw [decide_eq_true hab'] at hf; exact hf)
      rw [bparams_cons_some a b hl, List.zip_cons_cons, beq_iff_eq.mpr hab'] at key
      rw [bparams_cons_some a b hl, List.zip_cons_cons, beq_iff_eq.mpr hab']
      unfold KeyRel
      simp only [expandGo]
      rw [List.pairwise_flatMap]
      refine ⟨fun e _ => (keyRel_expandGo_some loopRel_lt _ es e _).map_cons loopRel_lt _, h.imp_of_mem ?_⟩
      intro e e' he he' hee x hx y hy
      obtain ⟨hx1, -, hx2⟩ := key e he x hx
      obtain ⟨hy1, -, hy2⟩ := key e' he' y hy
      exact hlt hx1 hy1 (hx2 ▸ hy2 ▸ hee)
    · rw [decide_eq_false hab'] at hf
      rw [bparams_cons_some a b hl, List.zip_cons_cons, beq_eq_false_iff_ne.mpr hab', expandGo]
      refine (ih (d + 1) hf (fun e he => (hwf' e he).2.2) (h.imp_of_mem fun ha hb hlt => ?_)).range_flatMap loopRel_lt b
      obtain rfl := hab.resolve_left hab'
      rw [drop_cons_of_InB_one (hwf _ ha), drop_cons_of_InB_one (hwf _ hb), List.cons_lt_cons_iff] at hlt
      exact hlt.elim (fun h0 => absurd h0 (Nat.lt_irrefl 0)) And.right

end COO

/-- positions of the `true` flags, counted from `o` -/
def trueIdx : List Bool → Nat → List Nat
  | [], _ => []
  | true :: bs, o => o :: trueIdx bs (o + 1)
  | false :: bs, o => trueIdx bs (o + 1)

/-- `all(d == 1 for d in diff(nonbroadcast_idx))` -/
def adjL (nb : List Nat) : Bool := (List.zip (nb.drop 1) nb).all fun p => p.1 - p.2 == 1

theorem adjL_cons_cons (a b : Nat) (L : List Nat) : adjL (a :: b :: L) = (b - a == 1 && adjL (b :: L)) := by
  simp [adjL]

/-- after a non-broadcast axis at `o`: adjacency keeps the next one at `o + 1` (still inside the block)
or forbids any (`q` is past `o + 1`: the block has ended) -/
theorem form_of_adj : ∀ (bs : List Bool) (o q : Nat), adjL (o :: trueIdx bs q) = true →
    (q = o + 1 → form1 bs = true) ∧ (o + 2 ≤ q → form2 bs = true)
  | [], _, _, _ => ⟨fun _ => rfl, fun _ => rfl⟩
  | true :: bs, o, q, h => by
    simp only [trueIdx, adjL_cons_cons, Bool.and_eq_true, beq_iff_eq] at h
    exact ⟨fun _ => (form_of_adj bs q (q + 1) h.2).1 rfl, fun hq => by omega⟩
  | false :: bs, o, q, h => by
    have ih := form_of_adj bs o (q + 1) h
    exact ⟨fun hq => ih.2 (by omega), fun hq => ih.2 (by omega)⟩

theorem form0_of_adj : ∀ (bs : List Bool) (o : Nat), adjL (trueIdx bs o) = true → form0 bs = true
  | [], _, _ => rfl
  | true :: bs, o, h => by
    simp only [trueIdx] at h
    simp only [form0]
    exact (form_of_adj bs o (o + 1) h).1 rfl
  | false :: bs, o, h => by
    simp only [trueIdx] at h
    simp only [form0]
    exact form0_of_adj bs (o + 1) h

theorem filter_range'_eq_trueIdx (g : Nat → Bool) : ∀ (bs : List Bool) (o : Nat),
    (∀ k, (h : k < bs.length) → g (o + k) = bs[k]) → (List.range' o bs.length).filter g = trueIdx bs o
  | [], _, _ => rfl
  | b :: bs, o, hg => by
    have ih := filter_range'_eq_trueIdx g bs (o + 1) fun k hk => by
      rw [Nat.add_right_comm, Nat.add_assoc]
      exact hg (k + 1) (Nat.succ_lt_succ hk)
    have h0 : g o = b := hg 0 (Nat.zero_lt_succ _)
    rw [List.length_cons, List.range'_succ, List.filter_cons, ih, h0]
    cases b <;> rfl

theorem bparams_length (src dst : List Nat) : (bparams src dst).length = dst.length := by
  simp [bparams]

theorem COO.expandSorted_eq (src dst : List Nat) : COO.expandSorted src dst =
    adjL ((List.range dst.length).filter fun d => (bparams src dst).getD d none == some true) := rfl

theorem form0_of_expandSorted {src dst : List Nat} (h : COO.expandSorted src dst = true) :
    form0 (flagsOf ((bparams src dst).zip dst)) = true := by
  rw [flagsOf, List.map_fst_zip (by rw [bparams_length]; exact Nat.le_refl _)]
  apply form0_of_adj _ 0
  rw [COO.expandSorted_eq, List.range_eq_range', ← bparams_length src dst] at h
  rwa [← filter_range'_eq_trueIdx (fun d => (bparams src dst).getD d none == some true) _ 0 (fun k hk => by simp at hk; simp [hk]),
    List.length_map]

namespace COO
variable {α : Type}

/-- **the `sorted=` claim of `broadcast_to`.** -/
theorem expand_sortedLin {es : List (Idx × α)} {src dst : List Nat} (hb : BcTo src dst)
    (hwf : ∀ e ∈ es, InB e.1 src) (hs : SortedLin src es) (hadj : expandSorted src dst = true) :
    SortedLin dst (expand es src dst) := by
  apply (sortedLin_iff_lex (wf_expand hb hwf)).mpr
  exact lexSorted_expandGo_none hb es 0 (form0_of_expandSorted hadj) hwf ((sortedLin_iff_lex hwf).mp hs)

end COO
end SparseV
