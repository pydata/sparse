/-
  Helper lemmas for property C10.  The dense form of a sorted sparse row is a walk along its stored
  positions (`denseWalk`); a sorted list is determined by its multiset, which is how the outputs of
  `_sort_coo`, `unique_*` and `argsort` are identified with the dense results.
-/
import SparseV.Model.Search
import SparseV.Lemmas.Index
import SparseV.Lemmas.Assoc
namespace SparseV
namespace Search
open Spec

def keysR (es : Row) : List Nat := es.map (·.1)

/-- a row of a canonical array: positions strictly increasing, all in `[s, n)` -/
def RowFrom (s n : Nat) (es : Row) : Prop := (keysR es).Pairwise (· < ·) ∧ ∀ e ∈ es, s ≤ e.1 ∧ e.1 < n

def RowWF (n : Nat) (es : Row) : Prop := RowFrom 0 n es

instance (s n : Nat) (es : Row) : Decidable (RowFrom s n es) := by unfold RowFrom; infer_instance
instance (n : Nat) (es : Row) : Decidable (RowWF n es) := by unfold RowWF; infer_instance

theorem RowFrom.nil (s n : Nat) : RowFrom s n [] := ⟨List.Pairwise.nil, fun _ h => nomatch h⟩

theorem RowFrom.cons_iff {s n p : Nat} {v : Int} {es : Row} :
    RowFrom s n ((p, v) :: es) ↔ s ≤ p ∧ p < n ∧ RowFrom (p + 1) n es := by
  unfold RowFrom keysR
  simp only [List.map_cons, List.pairwise_cons, List.mem_map, List.mem_cons, forall_eq_or_imp, forall_exists_index,
    and_imp, forall_apply_eq_imp_iff₂]
  constructor
  · rintro ⟨⟨h1, h2⟩, ⟨h3, h4⟩, h5⟩
    exact ⟨h3, h4, h2, fun e he => ⟨h1 e he, (h5 e he).2⟩⟩
  · rintro ⟨h3, h4, h2, h5⟩
    exact ⟨⟨fun e he => (h5 e he).1, h2⟩, ⟨h3, h4⟩, fun e he => ⟨Nat.le_trans h3 (Nat.le_of_succ_le (h5 e he).1), (h5 e he).2⟩⟩

theorem RowFrom.mono {s s' n : Nat} {es : Row} (h : RowFrom s n es) (hs : s' ≤ s) : RowFrom s' n es :=
  ⟨h.1, fun e he => ⟨Nat.le_trans hs (h.2 e he).1, (h.2 e he).2⟩⟩

theorem RowFrom.length_le : ∀ {es : Row} {s n : Nat}, RowFrom s n es → es.length ≤ n - s
  | [], _, _, _ => Nat.zero_le _
  | (p, v) :: es, s, n, h => by
    obtain ⟨_, _, ht⟩ := cons_iff.mp h
    have := ht.length_le
    simp only [List.length_cons]
    omega

theorem RowFrom.nodup {s n : Nat} {es : Row} (h : RowFrom s n es) : (keysR es).Nodup :=
  h.1.imp (fun hab => Nat.ne_of_lt hab)

theorem RowFrom.not_mem_of_lt {s n : Nat} {es : Row} (h : RowFrom s n es) {i : Nat} (hi : i < s) : i ∉ keysR es :=
  fun hm => by
    obtain ⟨e, he, rfl⟩ := List.mem_map.mp hm
    exact Nat.not_le_of_lt hi (h.2 e he).1

theorem keysR_cons (e : Nat × Int) (es : Row) : keysR (e :: es) = e.1 :: keysR es := rfl

theorem lookupRow_nil (fill : Int) (i : Nat) : lookupRow [] fill i = fill := rfl

theorem lookupRow_cons (e : Nat × Int) (es : Row) (fill : Int) (i : Nat) :
    lookupRow (e :: es) fill i = if e.1 = i then e.2 else lookupRow es fill i := by
  unfold lookupRow
  by_cases h : e.1 = i <;> simp [h]

theorem lookupRow_mem_or (es : Row) (fill : Int) (i : Nat) :
    (i ∉ keysR es ∧ lookupRow es fill i = fill) ∨ (i, lookupRow es fill i) ∈ es := by
  induction es with
  | nil => exact .inl ⟨List.not_mem_nil, rfl⟩
  | cons e es ih =>
    rw [lookupRow_cons]
    by_cases h : e.1 = i
    · rw [if_pos h]; exact .inr (h ▸ List.mem_cons_self)
    · rw [if_neg h]
      exact ih.imp (fun ⟨h1, h2⟩ => ⟨fun hm => (List.mem_cons.mp hm).elim (fun hi => h hi.symm) h1, h2⟩)
        (List.mem_cons_of_mem _)

theorem mem_keysR_of_mem {es : Row} {i : Nat} {v : Int} (h : (i, v) ∈ es) : i ∈ keysR es :=
  List.mem_map.mpr ⟨(i, v), h, rfl⟩

theorem lookupRow_of_not_mem {es : Row} {fill : Int} {i : Nat} (h : i ∉ keysR es) :
    lookupRow es fill i = fill :=
  (lookupRow_mem_or es fill i).elim (·.2) fun hm => absurd (mem_keysR_of_mem hm) h

theorem lookupRow_of_mem {es : Row} {fill : Int} {i : Nat} {v : Int}
    (hnd : (keysR es).Nodup) (hm : (i, v) ∈ es) : lookupRow es fill i = v := by
  induction es with
  | nil => cases hm
  | cons e es ih =>
    rw [lookupRow_cons]
    rw [keysR_cons, List.nodup_cons] at hnd
    rcases List.mem_cons.mp hm with rfl | h
    · exact if_pos rfl
    · rw [if_neg fun he : e.1 = i => hnd.1 (he ▸ mem_keysR_of_mem h)]
      exact ih hnd.2 h

theorem length_densifyRow (n : Nat) (fill : Int) (es : Row) : (densifyRow n fill es).length = n := by
  simp [densifyRow]

theorem getElem_densifyRow (n : Nat) (fill : Int) (es : Row) (i : Nat) (h : i < (densifyRow n fill es).length) :
    (densifyRow n fill es)[i] = lookupRow es fill i := by
  simp [densifyRow]

/-- the dense row written as a walk along the sorted stored positions -/
def denseWalk (fill : Int) : Nat → Nat → Row → List Int
  | s, n, [] => List.replicate (n - s) fill
  | s, n, (p, v) :: rest => List.replicate (p - s) fill ++ v :: denseWalk fill (p + 1) n rest

theorem map_lookup_eq_walk (fill : Int) (n : Nat) : ∀ (es : Row) (s : Nat), RowFrom s n es →
    (List.range' s (n - s)).map (lookupRow es fill) = denseWalk fill s n es
  | [], s, _ =>
    (List.map_eq_replicate_iff.mpr fun i _ => lookupRow_nil fill i).trans (by rw [List.length_range', denseWalk])
  | (p, v) :: rest, s, h => by
    obtain ⟨h1, h2, ht⟩ := RowFrom.cons_iff.mp h
    have hsplit : List.range' s (n - s) = List.range' s (p - s) ++ p :: List.range' (p + 1) (n - (p + 1)) := by
      have e1 : n - s = (p - s) + ((n - (p + 1)) + 1) := by
        rw [Nat.sub_add_eq, Nat.sub_add_cancel (Nat.sub_pos_of_lt h2), Nat.add_comm,
          Nat.sub_add_sub_cancel (Nat.le_of_lt h2) h1]
      rw [e1, ← List.range'_append_1, List.range'_succ, Nat.add_sub_cancel' h1]
    rw [hsplit, List.map_append, List.map_cons, denseWalk, lookupRow_cons, if_pos rfl,
      ← map_lookup_eq_walk fill n rest (p + 1) ht]
    congr 1
    ·
      refine (List.map_eq_replicate_iff.mpr fun i hi => lookupRow_of_not_mem ?_).trans (by rw [List.length_range'])
      exact (RowFrom.cons_iff.mpr ⟨Nat.le_refl p, h2, ht⟩).not_mem_of_lt
        (Nat.add_sub_cancel' h1 ▸ (List.mem_range'_1.mp hi).2)
    · congr 1
      refine List.map_congr_left fun i hi => ?_
      rw [lookupRow_cons, if_neg (Nat.ne_of_lt (List.mem_range'_1.mp hi).1)]

theorem densifyRow_eq_walk {n : Nat} {es : Row} (fill : Int) (h : RowWF n es) :
    densifyRow n fill es = denseWalk fill 0 n es := by
  rw [← map_lookup_eq_walk fill n es 0 h, densifyRow, List.range_eq_range', Nat.sub_zero]

theorem walk_perm (fill : Int) (n : Nat) : ∀ (es : Row) (s : Nat),
    ∃ m, (denseWalk fill s n es).Perm (es.map (·.2) ++ List.replicate m fill)
  | [], s => ⟨n - s, .refl _⟩
  | (p, v) :: rest, s => by
    obtain ⟨m, hm⟩ := walk_perm fill n rest (p + 1)
    refine ⟨p - s + m, ?_⟩
    rw [denseWalk, ← List.replicate_append_replicate, List.map_cons, List.cons_append]
    exact List.perm_middle.trans (.cons v ((hm.append_left _).trans (List.perm_append_comm_assoc _ _ _)))

theorem densifyRow_perm {n : Nat} {es : Row} (fill : Int) (h : RowWF n es) :
    (densifyRow n fill es).Perm (es.map (·.2) ++ List.replicate (n - es.length) fill) := by
  obtain ⟨m, hm⟩ := walk_perm fill n es 0
  rw [← densifyRow_eq_walk fill h] at hm
  have := hm.length_eq
  rw [length_densifyRow, List.length_append, List.length_map, List.length_replicate] at this
  rwa [Nat.sub_eq_of_eq_add' this]

theorem walk_block (fill : Int) (n : Nat) : ∀ (vs : List Int) (s : Nat) {t : Nat} (tail : Row), s + vs.length = t →
    denseWalk fill s n ((List.range' s vs.length).zip vs ++ tail) = vs ++ denseWalk fill t n tail
  | [], s, _, tail, rfl => rfl
  | v :: vs, s, _, tail, rfl => by
    rw [List.length_cons, List.range'_succ, List.zip_cons_cons, List.cons_append, denseWalk, Nat.sub_self,
      walk_block fill n vs (s + 1) tail (Nat.add_right_comm s 1 _)]
    rfl

theorem rowFrom_block {n : Nat} : ∀ (vs : List Int) (s : Nat) {t : Nat} {tail : Row}, s + vs.length = t → t ≤ n →
    RowFrom t n tail → RowFrom s n ((List.range' s vs.length).zip vs ++ tail)
  | [], s, _, tail, rfl, _, ht => ht
  | v :: vs, s, _, tail, rfl, hn, ht => by
    rw [List.length_cons, List.range'_succ, List.zip_cons_cons, List.cons_append, RowFrom.cons_iff]
    exact ⟨Nat.le_refl s, Nat.lt_of_lt_of_le (Nat.lt_add_of_pos_right (Nat.succ_pos _)) hn,
      rowFrom_block vs (s + 1) (Nat.add_right_comm s 1 _) hn ht⟩

theorem walk_gap (fill : Int) {n s s' : Nat} (hs : s ≤ s') (hn : s' ≤ n) : ∀ {es : Row}, RowFrom s' n es →
    denseWalk fill s n es = List.replicate (s' - s) fill ++ denseWalk fill s' n es
  | [], _ => by
    rw [denseWalk, denseWalk, List.replicate_append_replicate, Nat.add_comm, Nat.sub_add_sub_cancel hn hs]
  | (p, v) :: rest, h => by
    rw [denseWalk, denseWalk, ← List.append_assoc, List.replicate_append_replicate, Nat.add_comm (s' - s),
      Nat.sub_add_sub_cancel (RowFrom.cons_iff.mp h).1 hs]

/-- `a ++ b` with `c` unstored cells put in between: what the index shift of `_sort_coo` produces -/
def placeFill (c : Nat) (a b : List Int) : Row :=
  (List.range' 0 a.length).zip a ++ (List.range' (a.length + c) b.length).zip b

theorem shifted_indices (pos m c : Nat) :
    ((List.range (pos + m)).map fun i => if i < pos then i else i + c)
      = List.range' 0 pos ++ List.range' (pos + c) m := by
  rw [List.range_eq_range', ← List.range'_append_1, List.map_append, Nat.zero_add, Nat.add_comm pos c,
    ← List.map_add_range']
  congr 1
  · exact (List.map_congr_left fun i hi => if_pos (Nat.zero_add pos ▸ (List.mem_range'_1.mp hi).2)).trans (List.map_id _)
  · exact List.map_congr_left fun i hi =>
      (if_neg (Nat.not_lt.mpr (List.mem_range'_1.mp hi).1)).trans (Nat.add_comm i c)

theorem shifted_zip (a b : List Int) (c : Nat) :
    ((List.range (a ++ b).length).map fun i => if i < a.length then i else i + c).zip (a ++ b) = placeFill c a b := by
  rw [List.length_append, shifted_indices, List.zip_append (List.length_range' ..), placeFill]

theorem placeFill_dense (fill : Int) {n c : Nat} (a b : List Int) (hn : a.length + c + b.length = n) :
    RowWF n (placeFill c a b) ∧ densifyRow n fill (placeFill c a b) = a ++ List.replicate c fill ++ b := by
  subst hn
  have hw := walk_block fill (a.length + c + b.length) b (a.length + c) [] rfl
  have h2 := rowFrom_block b (a.length + c) rfl (Nat.le_refl _) (RowFrom.nil _ _)
  rw [List.append_nil] at hw h2
  have hwf : RowWF _ (placeFill c a b) :=
    rowFrom_block a 0 (Nat.zero_add _) (Nat.le_trans (Nat.le_add_right _ _) (Nat.le_add_right _ _))
      (h2.mono (Nat.le_add_right _ _))
  refine ⟨hwf, ?_⟩
  rw [densifyRow_eq_walk fill hwf, placeFill, walk_block fill _ a 0 _ (Nat.zero_add _),
    walk_gap fill (Nat.le_add_right _ _) (Nat.le_add_right _ _) h2, hw, denseWalk, Nat.sub_self, List.replicate_zero,
    List.append_nil, Nat.add_sub_cancel_left, List.append_assoc]

/-- the dense form is sorted: everything before the first position where the fill value precedes is
`≤ fill`, everything from there on is `≥ fill` -/
theorem placeFill_sorted (le : Int → Int → Bool) (trans : ∀ a b c, le a b → le b c → le a c)
    (total : ∀ a b, le a b || le b a) (fill : Int) (c : Nat) : ∀ (data : List Int), data.Pairwise (fun a b => le a b) →
    (data.take (data.findIdx fun d => !le d fill) ++ List.replicate c fill
      ++ data.drop (data.findIdx fun d => !le d fill)).Pairwise (fun a b => le a b)
  | [], _ => by
    simp only [List.findIdx_nil, List.take_nil, List.drop_nil, List.nil_append, List.append_nil]
    exact List.pairwise_replicate.mpr (.inr (by simpa using total fill fill))
  | d :: ds, hs => by
    rw [List.pairwise_cons] at hs
    rw [List.findIdx_cons]
    cases hd : le d fill with
    | false =>
      have hfd : le fill d := by simpa [hd] using total fill d
      simp only [Bool.not_false, cond_true, List.take_zero, List.drop_zero, List.nil_append]
      refine List.pairwise_append.mpr ⟨List.pairwise_replicate.mpr (.inr (by simpa using total fill fill)),
        List.pairwise_cons.mpr hs, fun a ha b hb => ?_⟩
      rw [(List.mem_replicate.mp ha).2]
      rcases List.mem_cons.mp hb with rfl | hb
      · exact hfd
      · exact trans _ _ _ hfd (hs.1 b hb)
    | true =>
      simp only [Bool.not_true, cond_false, List.take_succ_cons, List.drop_succ_cons, List.cons_append]
      refine List.pairwise_cons.mpr ⟨fun x hx => ?_, placeFill_sorted le trans total fill c ds hs.2⟩
      rcases List.mem_append.mp hx with hx | hx
      · rcases List.mem_append.mp hx with hx | hx
        · exact hs.1 x (List.mem_of_mem_take hx)
        · rw [(List.mem_replicate.mp hx).2]; exact hd
      · exact hs.1 x (List.mem_of_mem_drop hx)

def leOf (d : Bool) : Int → Int → Bool := if d then leDesc else leAsc

theorem sortD_eq (d : Bool) (l : List Int) : sortD d l = l.mergeSort (leOf d) := rfl

theorem leOf_trans (d : Bool) : ∀ a b c, leOf d a b → leOf d b c → leOf d a c := by
  intro a b c; cases d <;> simp only [leOf, leAsc, leDesc, decide_eq_true_eq, Bool.false_eq_true, if_false, if_true] <;> omega

theorem leOf_total (d : Bool) : ∀ a b, leOf d a b || leOf d b a := by
  intro a b
  cases d <;> simp only [leOf, leAsc, leDesc, Bool.or_eq_true, decide_eq_true_eq, Bool.false_eq_true, if_false, if_true] <;>
    omega

theorem leOf_antisymm (d : Bool) : ∀ a b, leOf d a b → leOf d b a → a = b := by
  intro a b; cases d <;> simp only [leOf, leAsc, leDesc, decide_eq_true_eq, Bool.false_eq_true, if_false, if_true] <;> omega

theorem leAsc_antisymm : ∀ a b, leAsc a b → leAsc b a → a = b := leOf_antisymm false

/-- a sorted list is determined by its multiset -/
theorem mergeSort_unique (d : Bool) {l s : List Int} (hs : s.Pairwise fun a b => leOf d a b) (hp : s.Perm l) :
    l.mergeSort (leOf d) = s :=
  List.Perm.eq_of_pairwise (le := fun a b => leOf d a b) (fun a b _ _ => leOf_antisymm d a b)
    (List.pairwise_mergeSort (leOf_trans d) (leOf_total d) l) hs ((List.mergeSort_perm l (leOf d)).trans hp.symm)

/-- the data of a group after `np.sort` and the optional reversal -/
theorem sortRow_data (d : Bool) (l : List Int) :
    (if d then (l.mergeSort leAsc).reverse else l.mergeSort leAsc) = l.mergeSort (leOf d) := by
  cases d
  · rfl
  · exact (mergeSort_unique true (List.pairwise_reverse.mpr (List.pairwise_mergeSort (leOf_trans false) (leOf_total false) l))
      ((List.reverse_perm _).trans (List.mergeSort_perm _ _))).symm

theorem precedes_eq (d : Bool) (fill : Int) :
    (fun x : Int => if d then decide (fill > x) else decide (fill < x)) = fun x => !leOf d x fill := by
  funext x
  cases d <;> simp [leOf, leAsc, leDesc, ← decide_not]

theorem sortRow_eq (d : Bool) (n : Nat) (fill : Int) (es : Row) :
    sortRow d n fill es =
      let data := (es.map (·.2)).mergeSort (leOf d)
      let pos := data.findIdx fun x => !leOf d x fill
      placeFill (n - es.length) (data.take pos) (data.drop pos) := by
  dsimp only
  rw [← shifted_zip, List.take_append_drop, List.length_take, Nat.min_eq_left List.findIdx_le_length,
    List.length_mergeSort, List.length_map]
  unfold sortRow
  simp only [sortRow_data, precedes_eq]

/-- **core of `sort_row_spec`** -/
theorem sortRow_dense (d : Bool) (n : Nat) (fill : Int) (es : Row) (h : RowWF n es) :
    RowWF n (sortRow d n fill es) ∧
    densifyRow n fill (sortRow d n fill es) = sortD d (densifyRow n fill es) := by
  have hs := List.pairwise_mergeSort (leOf_trans d) (leOf_total d) (es.map (·.2))
  have hp := List.mergeSort_perm (es.map (·.2)) (leOf d)
  rw [sortRow_eq, sortD_eq]
  dsimp only
  generalize (es.map (·.2)).mergeSort (leOf d) = data at hs hp ⊢
  have hsorted := placeFill_sorted (leOf d) (leOf_trans d) (leOf_total d) fill (n - es.length) data hs
  generalize data.findIdx (fun x => !leOf d x fill) = pos at hsorted ⊢
  obtain ⟨hwf, hd⟩ := placeFill_dense fill (c := n - es.length) (n := n) (data.take pos) (data.drop pos) (by
    rw [Nat.add_right_comm, ← List.length_append, List.take_append_drop, hp.length_eq, List.length_map]
    exact Nat.add_sub_cancel' h.length_le)
  refine ⟨hwf, ?_⟩
  rw [hd]
  refine (mergeSort_unique d hsorted ?_).symm
  -- permutation: take ++ fill.. ++ drop  ~  data ++ fill..  ~  vals ++ fill..  ~  dense input
  refine List.Perm.trans ?_ (densifyRow_perm fill h).symm
  rw [List.append_assoc]
  refine (List.perm_append_comm.append_left _).trans ?_
  rw [← List.append_assoc, List.take_append_drop]
  exact hp.append_right _

theorem argmaxD_eq_iff {l : List Int} {i : Nat} (hi : i < l.length) :
    argmaxD l = i ↔ (∀ w ∈ l, w ≤ l[i]) ∧ ∀ j (hj : j < i), l[j] < l[i] := by
  rw [argmaxD, List.findIdx_eq hi]
  simp only [List.all_eq_true, decide_eq_true_eq, List.all_eq_false, Int.not_le]
  constructor
  · rintro ⟨h1, h2⟩
    refine ⟨h1, fun j hj => ?_⟩
    obtain ⟨x, hx, hlt⟩ := h2 j hj
    exact Int.lt_of_lt_of_le hlt (h1 x hx)
  · rintro ⟨h1, h2⟩
    exact ⟨h1, fun j hj => ⟨l[i], List.getElem_mem hi, h2 j hj⟩⟩

theorem argmaxD_lt {l : List Int} (hne : l ≠ []) : argmaxD l < l.length := by
  cases hm : l.max? with
  | none => exact absurd (List.max?_eq_none_iff.mp hm) hne
  | some m =>
    obtain ⟨hmem, hmax⟩ := List.max?_eq_some_iff.mp hm
    exact List.findIdx_lt_length_of_exists ⟨m, hmem, by simpa using hmax⟩

theorem argmaxD_densifyRow {n : Nat} {fill : Int} {es : Row} {i : Nat} (hi : i < n)
    (hmax : ∀ j, j < n → lookupRow es fill j ≤ lookupRow es fill i)
    (hfirst : ∀ j, j < i → lookupRow es fill j < lookupRow es fill i) : argmaxD (densifyRow n fill es) = i := by
  have hl := length_densifyRow n fill es
  refine (argmaxD_eq_iff (Nat.lt_of_lt_of_eq hi hl.symm)).mpr ⟨fun w hw => ?_, fun j hj => ?_⟩
  · obtain ⟨j, hj, rfl⟩ := List.mem_iff_getElem.mp hw
    rw [getElem_densifyRow, getElem_densifyRow]
    exact hmax j (Nat.lt_of_lt_of_eq hj hl)
  · rw [getElem_densifyRow, getElem_densifyRow]
    exact hfirst j hj

theorem sorted_keys_index_lt {es : Row} (h : (keysR es).Pairwise (· < ·)) {a b : Nat} (ha : a < es.length)
    (hb : b < es.length) (hlt : es[a].1 < es[b].1) : a < b := by
  rcases Nat.lt_trichotomy a b with hab | rfl | hab
  · exact hab
  · omega
  · have := List.pairwise_iff_getElem.mp (List.pairwise_map.mp h) b a hb ha hab
    omega

theorem gapSearch_spec : ∀ (ks : List Nat) (s : Nat) (cur : Int), cur + 1 = s → ks.Pairwise (· < ·) → (∀ k ∈ ks, s ≤ k) →
    ∃ g, gapSearch cur s ks = g ∧ s ≤ g ∧ g ≤ s + ks.length ∧ g ∉ ks ∧ ∀ j, s ≤ j → j < g → j ∈ ks
  | [], s, cur, hcur, _, _ =>
    ⟨s, by rw [gapSearch, hcur, Int.toNat_natCast], Nat.le_refl _, Nat.le_refl _, List.not_mem_nil,
      fun j h1 h2 => absurd h1 (Nat.not_le.mpr h2)⟩
  | c :: cs, s, cur, hcur, hp, hb => by
    have hc : s ≤ c := hb c List.mem_cons_self
    rw [List.pairwise_cons] at hp
    rw [gapSearch]
    by_cases hsc : s < c
    · rw [if_pos (by omega)]
      refine ⟨s, rfl, Nat.le_refl _, Nat.le_add_right _ _, fun hm => ?_, fun j h1 h2 => absurd h1 (Nat.not_le.mpr h2)⟩
      rcases List.mem_cons.mp hm with h | h
      · exact Nat.ne_of_lt hsc h
      · exact Nat.lt_irrefl _ (Nat.lt_trans hsc (hp.1 s h))
    · rw [if_neg (by omega)]
      obtain rfl : c = s := Nat.le_antisymm (Nat.not_lt.mp hsc) hc
      obtain ⟨g, hg, i1, i2, i3, i4⟩ := gapSearch_spec cs (c + 1) c rfl hp.2 (fun k hk => hp.1 k hk)
      rw [Nat.add_right_comm] at i2
      refine ⟨g, hg, Nat.le_of_succ_le i1, i2, ?_, fun j h1 h2 => ?_⟩
      · rw [List.mem_cons, not_or]
        exact ⟨Nat.ne_of_gt i1, i3⟩
      · rw [List.mem_cons]
        by_cases hj : j = c
        · exact .inl hj
        · exact .inr (i4 j (Nat.lt_of_le_of_ne h1 (Ne.symm hj)) h2)

/-- a stored maximum above the fill value (or a full column): the first stored maximum wins -/
theorem argmaxD_dense_stored {n : Nat} {fill : Int} {es : Row} (h : RowWF n es)
    (hcond : (∃ v ∈ es.map (·.2), fill < v) ∨ es.length = n) :
    argmaxD (densifyRow n fill es) = (es.map (·.1)).getD (argmaxD (es.map (·.2))) 0 := by
  by_cases hne : es = []
  · subst hne
    obtain ⟨v, hv, _⟩ | rfl := hcond
    · cases hv
    · rfl
  generalize hb : argmaxD (es.map (·.2)) = b
  have hlt : b < (es.map (·.2)).length := hb ▸ argmaxD_lt (by simpa using hne)
  obtain ⟨hmaxv, hfirstv⟩ := (argmaxD_eq_iff hlt).mp hb
  have hb' : b < es.length := by simpa using hlt
  simp only [List.getElem_map, List.mem_map, forall_exists_index, and_imp, forall_apply_eq_imp_iff₂]
    at hmaxv hfirstv
  rw [List.getD_eq_getElem?_getD, List.getElem?_map, List.getElem?_eq_getElem hb', Option.map_some, Option.getD_some]
  have hmem : es[b] ∈ es := List.getElem_mem hb'
  have hP : lookupRow es fill es[b].1 = es[b].2 := lookupRow_of_mem h.nodup hmem
  have hunst : ∀ j, j < n → j ∉ keysR es → fill < es[b].2 := by
    intro j hj hnk
    obtain ⟨v, hv, hvf⟩ | hfull := hcond
    · obtain ⟨e, he, rfl⟩ := List.mem_map.mp hv
      exact Int.lt_of_lt_of_le hvf (hmaxv e he)
    · -- a full column has no unstored position: `j` and the `n` stored positions are `n + 1` distinct numbers below `n`
      have hsub : j :: keysR es ⊆ List.range n := fun x hx => List.mem_range.mpr <| by
        rcases List.mem_cons.mp hx with rfl | hx
        · exact hj
        · obtain ⟨e, he, rfl⟩ := List.mem_map.mp hx
          exact (h.2 e he).2
      have := (List.nodup_cons.mpr ⟨hnk, h.nodup⟩).length_le_of_subset hsub
      rw [List.length_cons, List.length_range, keysR, List.length_map, hfull] at this
      exact absurd this (Nat.not_succ_le_self n)
  apply argmaxD_densifyRow (h.2 _ hmem).2
  · intro j hj
    rw [hP]
    rcases lookupRow_mem_or es fill j with ⟨hnk, hf⟩ | hm
    · rw [hf]; exact Int.le_of_lt (hunst j hj hnk)
    · exact hmaxv _ hm
  · intro j hj
    rw [hP]
    rcases lookupRow_mem_or es fill j with ⟨hnk, hf⟩ | hm
    · rw [hf]; exact hunst j (Nat.lt_trans hj (h.2 _ hmem).2) hnk
    · -- a stored position before that of the first maximum holds an earlier, hence smaller, stored value
      obtain ⟨a, ha, hea⟩ := List.mem_iff_getElem.mp hm
      have := hfirstv a (sorted_keys_index_lt h.1 ha hb' (by rw [hea]; exact hj))
      rwa [hea] at this

/-- no stored value above the fill value, some cell unstored: the first unstored position wins, unless a
stored fill value comes before it -/
theorem argmaxD_dense_gap {n : Nat} {fill : Int} {es : Row} (h : RowWF n es) (hle : ∀ e ∈ es, e.2 ≤ fill)
    (hk : es.length < n) (hnf : ∀ e ∈ es, e.1 < gapSearch (-1) 0 (es.map (·.1)) → e.2 ≠ fill) :
    argmaxD (densifyRow n fill es) = gapSearch (-1) 0 (es.map (·.1)) := by
  obtain ⟨g, hg, _, g2, g3, g4⟩ := gapSearch_spec (es.map (·.1)) 0 (-1) rfl h.1 (fun _ _ => Nat.zero_le _)
  rw [hg] at hnf ⊢
  rw [List.length_map, Nat.zero_add] at g2
  have hdg : lookupRow es fill g = fill := lookupRow_of_not_mem g3
  apply argmaxD_densifyRow (Nat.lt_of_le_of_lt g2 hk)
  · intro j hj
    rw [hdg]
    rcases lookupRow_mem_or es fill j with ⟨_, hf⟩ | hm
    · exact Int.le_of_eq hf
    · exact hle _ hm
  · intro j hj
    rw [hdg]
    rcases lookupRow_mem_or es fill j with ⟨hnk, _⟩ | hm
    · exact absurd (g4 j (Nat.zero_le _) hj) hnk
    · have := hle _ hm
      have := hnf _ hm hj
      omega

/-- **core of `argmax_first_occurrence`** (max mode) -/
theorem argMaxCol_dense (n : Nat) (fill : Int) (es : Row) (h : RowWF n es)
    (hex : ExcludedArgStoredFill true n fill es = false) :
    argMinMaxCol true n fill es = argmaxD (densifyRow n fill es) := by
  unfold ExcludedArgStoredFill at hex
  unfold argMinMaxCol
  simp only [if_true] at hex ⊢
  cases hcond : ((es.map (·.2)).any (fun v => decide (v > fill)) || es.length == n)
  · rw [hcond] at hex
    have hks : (es.map (·.1)).mergeSort (fun a b => decide (a ≤ b)) = es.map (·.1) :=
      List.mergeSort_of_pairwise (h.1.imp fun {a b} hab => decide_eq_true (Nat.le_of_lt hab))
    simp only [Bool.false_eq_true, if_false, Bool.not_false, Bool.true_and, hks] at hex ⊢
    obtain ⟨hc1, hc2⟩ := Bool.or_eq_false_iff.mp hcond
    refine (argmaxD_dense_gap h (fun e he => ?_) ?_ fun e he hlt heq => ?_).symm
    · simpa using List.any_eq_false.mp hc1 e.2 (List.mem_map.mpr ⟨e, he, rfl⟩)
    · have : es.length ≠ n := by simpa using hc2
      have := h.length_le
      omega
    · simpa [heq, hlt] using List.any_eq_false.mp hex e he
  · simp only [if_true]
    refine (argmaxD_dense_stored h ?_).symm
    rcases Bool.or_eq_true _ _ ▸ hcond with hc | hc
    · obtain ⟨v, hv, hvf⟩ := List.any_eq_true.mp hc
      exact .inl ⟨v, hv, by simpa using hvf⟩
    · exact .inr (by simpa using hc)

/-! argmin is argmax of the negated row -/

def negRow (es : Row) : Row := es.map fun e => (e.1, -e.2)

theorem negRow_wf {n : Nat} {es : Row} (h : RowWF n es) : RowWF n (negRow es) :=
  ⟨by rw [keysR, negRow, List.map_map]; exact h.1, fun e he => by
    obtain ⟨e', he', rfl⟩ := List.mem_map.mp he
    exact h.2 e' he'⟩

theorem argminD_eq_argmaxD_neg (l : List Int) : argminD l = argmaxD (l.map fun v => -v) := by
  simp [argminD, argmaxD, List.findIdx_map, Function.comp_def]

theorem lookupRow_neg (es : Row) (fill : Int) (i : Nat) :
    lookupRow (negRow es) (-fill) i = -lookupRow es fill i := by
  induction es with
  | nil => rfl
  | cons e es ih =>
    rw [negRow, List.map_cons, lookupRow_cons, lookupRow_cons, ← negRow, ih]
    split <;> rfl

theorem densifyRow_neg (n : Nat) (fill : Int) (es : Row) :
    densifyRow n (-fill) (negRow es) = (densifyRow n fill es).map fun v => -v := by
  rw [densifyRow, densifyRow, List.map_map]
  exact List.map_congr_left fun i _ => lookupRow_neg es fill i

theorem argMinMaxCol_neg (n : Nat) (fill : Int) (es : Row) :
    argMinMaxCol false n fill es = argMinMaxCol true n (-fill) (negRow es) := by
  unfold argMinMaxCol
  simp only [negRow, List.map_map, Function.comp_def, List.length_map, List.any_map, Int.neg_lt_neg_iff, gt_iff_lt,
    argminD_eq_argmaxD_neg, Bool.false_eq_true, if_false, if_true]

theorem excludedArg_neg (n : Nat) (fill : Int) (es : Row) :
    ExcludedArgStoredFill false n fill es = ExcludedArgStoredFill true n (-fill) (negRow es) := by
  have hb : ∀ a b : Int, (-a == -b) = (a == b) := fun a b => by
    rw [Bool.eq_iff_iff, beq_iff_eq, beq_iff_eq, Int.neg_inj]
  simp [ExcludedArgStoredFill, negRow, Function.comp_def, hb]

/-- **core of `argmax_first_occurrence` and `argmin_first_occurrence`** -/
theorem argMinMaxCol_dense (m : Bool) (n : Nat) (fill : Int) (es : Row) (h : RowWF n es)
    (hex : ExcludedArgStoredFill m n fill es = false) :
    argMinMaxCol m n fill es = (if m then argmaxD else argminD) (densifyRow n fill es) := by
  cases m
  · rw [argMinMaxCol_neg, if_neg Bool.false_ne_true, argminD_eq_argmaxD_neg, ← densifyRow_neg]
    exact argMaxCol_dense n (-fill) (negRow es) (negRow_wf h) (by rw [← excludedArg_neg]; exact hex)
  · exact argMaxCol_dense n fill es h hex

theorem mem_dedupAdj {α : Type} [DecidableEq α] : ∀ (l : List α) (a : α), a ∈ dedupAdj l ↔ a ∈ l
  | [], _ => .rfl
  | [_], _ => .rfl
  | b :: c :: t, a => by
    have ih := mem_dedupAdj (c :: t) a
    rw [dedupAdj]
    split
    · next h => rw [ih, h, List.mem_cons (l := c :: t), or_iff_right_of_imp (· ▸ List.mem_cons_self)]
    · rw [List.mem_cons, ih, List.mem_cons (l := c :: t)]

theorem dedupAdj_sorted : ∀ (l : List Int), l.Pairwise (· ≤ ·) → (dedupAdj l).Pairwise (· < ·)
  | [], _ => .nil
  | [_], _ => List.pairwise_singleton _ _
  | b :: c :: t, h => by
    rw [List.pairwise_cons] at h
    have ih := dedupAdj_sorted (c :: t) h.2
    rw [dedupAdj]
    split
    · exact ih
    · next hbc =>
      refine List.pairwise_cons.mpr ⟨fun x hx => ?_, ih⟩
      have h1 := h.1 c List.mem_cons_self
      have h2 := h.1 x ((mem_dedupAdj _ _).mp hx)
      rcases List.mem_cons.mp ((mem_dedupAdj _ _).mp hx) with rfl | hx
      · omega
      · have := (List.pairwise_cons.mp h.2).1 x hx
        omega

theorem strict_sorted_ext {α : Type} {lt : α → α → Prop} (asymm : ∀ a b, lt a b → ¬ lt b a) {l₁ l₂ : List α}
    (h₁ : l₁.Pairwise lt) (h₂ : l₂.Pairwise lt) (hm : ∀ a, a ∈ l₁ ↔ a ∈ l₂) : l₁ = l₂ := by
  have nd : ∀ {l : List α}, l.Pairwise lt → l.Nodup := fun h =>
    h.imp fun {a b} hab he => by subst he; exact asymm a a hab hab
  exact List.Perm.eq_of_pairwise (fun a b _ _ hab hba => absurd hba (asymm a b hab)) h₁ h₂
    ((List.perm_ext_iff_of_nodup (nd h₁) (nd h₂)).mpr hm)

theorem mergeSort_asc_pairwise (l : List Int) : (l.mergeSort leAsc).Pairwise (· ≤ ·) :=
  (List.pairwise_mergeSort (leOf_trans false) (leOf_total false) l).imp of_decide_eq_true

theorem uniqueValuesD_sorted (l : List Int) : (uniqueValuesD l).Pairwise (· < ·) :=
  dedupAdj_sorted _ (mergeSort_asc_pairwise l)

theorem mem_uniqueValuesD (l : List Int) (a : Int) : a ∈ uniqueValuesD l ↔ a ∈ l := by
  rw [uniqueValuesD, mem_dedupAdj, List.mem_mergeSort]

/-- `np.unique` is characterised by: strictly increasing, same elements -/
theorem eq_uniqueValuesD {u l : List Int} (hs : u.Pairwise (· < ·)) (hm : ∀ a, a ∈ u ↔ a ∈ l) : u = uniqueValuesD l :=
  strict_sorted_ext (fun _ _ => Int.lt_asymm) hs (uniqueValuesD_sorted l) fun a => by rw [mem_uniqueValuesD, hm]

theorem uniqueValuesD_of_sorted {l : List Int} (h : l.Pairwise (· < ·)) : uniqueValuesD l = l :=
  (eq_uniqueValuesD h fun _ => .rfl).symm

theorem mem_densifyRow {n : Nat} {es : Row} (fill : Int) (h : RowWF n es) (a : Int) :
    a ∈ densifyRow n fill es ↔ a ∈ es.map (·.2) ∨ (a = fill ∧ es.length < n) := by
  rw [(densifyRow_perm fill h).mem_iff, List.mem_append, List.mem_replicate, Nat.sub_ne_zero_iff_lt, and_comm]

theorem count_densifyRow {n : Nat} {es : Row} (fill : Int) (h : RowWF n es) (a : Int) :
    (densifyRow n fill es).count a = (es.map (·.2)).count a + if a = fill then n - es.length else 0 := by
  rw [(densifyRow_perm fill h).count_eq, List.count_append, List.count_replicate]
  simp only [beq_iff_eq, @eq_comm _ fill a]

/-- **core of `unique_values_partial` / `unique_values_spec_fixed`**: for a row that stores no fill value next to an unstored cell -/
theorem uniqueValues_core {n : Nat} {es : Row} (fill : Int) (h : RowWF n es)
    (hnf : es.length < n → fill ∉ es.map (·.2)) :
    (if es.length < n then (fill :: uniqueValuesD (es.map (·.2))).mergeSort leAsc else uniqueValuesD (es.map (·.2)))
      = uniqueValuesD (densifyRow n fill es) := by
  split
  · next hk =>
    refine eq_uniqueValuesD ?_ fun a => ?_
    · have hnd : (fill :: uniqueValuesD (es.map (·.2))).Nodup :=
        List.nodup_cons.mpr ⟨fun hm => hnf hk ((mem_uniqueValuesD _ _).mp hm),
          (uniqueValuesD_sorted _).imp Int.ne_of_lt⟩
      exact ((mergeSort_asc_pairwise _).and ((List.mergeSort_perm _ _).nodup_iff.mpr hnd)).imp
        Int.lt_iff_le_and_ne.mpr
    · rw [List.mem_mergeSort, List.mem_cons, mem_uniqueValuesD, mem_densifyRow fill h, or_comm, and_iff_left hk]
  · next hk =>
    refine eq_uniqueValuesD (uniqueValuesD_sorted _) fun a => ?_
    rw [mem_uniqueValuesD, mem_densifyRow fill h, or_iff_left fun h => hk h.2]

theorem pruneRow_wf {n : Nat} {es : Row} (fill : Int) (h : RowWF n es) : RowWF n (pruneRow fill es) :=
  ⟨h.1.sublist (List.filter_sublist.map _), fun e he => h.2 e (List.mem_filter.mp he).1⟩

theorem pruneRow_nofill (fill : Int) (es : Row) : fill ∉ (pruneRow fill es).map (·.2) := by
  intro hm
  obtain ⟨e, he, hv⟩ := List.mem_map.mp hm
  simpa [hv] using (List.mem_filter.mp he).2

theorem lookupRow_prune {es : Row} (fill : Int) (hnd : (keysR es).Nodup) (i : Nat) :
    lookupRow (pruneRow fill es) fill i = lookupRow es fill i := by
  induction es with
  | nil => rfl
  | cons e es ih =>
    rw [keysR_cons, List.nodup_cons] at hnd
    rw [pruneRow, List.filter_cons, lookupRow_cons]
    by_cases hv : e.2 = fill
    · rw [if_neg (by simpa using hv)]
      split
      · -- a dropped entry at `i`: no other entry is at `i`
        next hi => subst hi; rw [hv]; exact (ih hnd.2).trans (lookupRow_of_not_mem hnd.1)
      · exact ih hnd.2
    · rw [if_pos (by simpa using hv), lookupRow_cons]
      exact congrArg _ (ih hnd.2)

theorem densifyRow_prune {n : Nat} {es : Row} (fill : Int) (h : RowWF n es) :
    densifyRow n fill (pruneRow fill es) = densifyRow n fill es :=
  List.map_congr_left fun i _ => lookupRow_prune fill h.nodup i

/-- `values[np.argsort(values)]` is the sorted array -/
theorem gather_argsort (l : List Int) : gather 0 (argsort l) l = l.mergeSort leAsc := by
  rw [gather, argsort, List.map_mergeSort (r := fun i j => decide (l.getD i 0 ≤ l.getD j 0)) (s := leAsc)
    (f := fun i => l.getD i 0) (l := List.range l.length) (fun a _ b _ => rfl), map_getD_range]

theorem gather_map {α β : Type} (d : α) (d' : β) (f : α → β) (p : List Nat) (l : List α)
    (hp : ∀ j ∈ p, j < l.length) : gather d' p (l.map f) = (gather d p l).map f := by
  rw [gather, gather, List.map_map]
  refine List.map_congr_left fun j hj => ?_
  simp [List.getD_eq_getElem?_getD, hp j hj]

theorem gather_range' {α : Type} (d : α) : ∀ (rest pre : List α),
    gather d (List.range' pre.length rest.length) (pre ++ rest) = rest
  | [], pre => rfl
  | v :: vs, pre => by
    have ih : gather d (List.range' (pre.length + 1) vs.length) (pre ++ v :: vs) = vs := by
      simpa using gather_range' d vs (pre ++ [v])
    rw [List.length_cons, List.range'_succ, gather, List.map_cons, ← gather, ih]
    simp [List.getD_eq_getElem?_getD]

theorem scatter_range' {α : Type} : ∀ (rest pre : List α),
    scatterAux (List.range' pre.length rest.length) rest (pre ++ rest) = pre ++ rest
  | [], pre => rfl
  | v :: vs, pre => by
    have ih := scatter_range' vs (pre ++ [v])
    rw [List.length_append, List.append_assoc] at ih
    rw [List.length_cons, List.range'_succ, scatterAux, List.set_append_right _ _ (Nat.le_refl _), Nat.sub_self]
    exact ih

theorem argsort_eq_of {l : List Int} {q : List Nat} (hq : q.Perm (List.range l.length))
    (hs : (gather 0 q l).Pairwise (· < ·)) : argsort l = q := by
  have hperm : (gather 0 q l).Perm l := (hq.map _).trans (by rw [map_getD_range])
  have hnd : l.Nodup := hperm.nodup_iff.mp (hs.imp Int.ne_of_lt)
  have hg : gather 0 (argsort l) l = gather 0 q l :=
    (gather_argsort l).trans (mergeSort_unique false (hs.imp fun h => decide_eq_true (Int.le_of_lt h)) hperm)
  have hlt : ∀ {p : List Nat}, p.Perm (List.range l.length) → ∀ j ∈ p, j < l.length := fun hp j hj =>
    List.mem_range.mp (hp.mem_iff.mp hj)
  have ha : (argsort l).Perm (List.range l.length) := List.mergeSort_perm _ _
  apply List.ext_getElem (ha.length_eq.trans hq.length_eq.symm)
  intro i h1 h2
  have := List.getElem_of_eq hg (by rw [gather, List.length_map]; exact h1)
  simp only [gather, List.getElem_map] at this
  exact (List.getD_inj (hlt ha _ (List.getElem_mem h1)) (hlt hq _ (List.getElem_mem h2)) hnd).mp this

/-- **when the inverse permutation is harmless**: for `fill :: U` with `U` strictly increasing, not
containing `fill`, and at most one element of `U` below `fill`, the argsort permutation is the identity or
the transposition `(0 1)`, an involution, so writing through it equals reading through it. -/
theorem scatter_eq_gather_of_le_one {β : Type} (d : β) (fill : Int) (U : List Int) (hU : U.Pairwise (· < ·))
    (hnf : fill ∉ U) (hone : U.countP (fun v => decide (v < fill)) ≤ 1) (xs : List β)
    (hxs : xs.length = U.length + 1) :
    scatter (argsort (fill :: U)) xs = gather d (argsort (fill :: U)) xs := by
  have sorted : (fill :: U).Pairwise (· < ·) → scatter (argsort (fill :: U)) xs = gather d (argsort (fill :: U)) xs := by
    intro hs
    have hp : argsort (fill :: U) = List.range (fill :: U).length :=
      argsort_eq_of (.refl _) (by rwa [gather, map_getD_range])
    rw [hp, List.length_cons, ← hxs, scatter, gather, map_getD_range, List.range_eq_range']
    exact scatter_range' xs []
  cases U with
  | nil => exact sorted (List.pairwise_singleton _ _)
  | cons u0 U' =>
    rw [List.pairwise_cons] at hU
    by_cases h0 : fill < u0
    · refine sorted (List.pairwise_cons.mpr ⟨fun u hu => ?_, List.pairwise_cons.mpr hU⟩)
      rcases List.mem_cons.mp hu with rfl | hu
      · exact h0
      · exact Int.lt_trans h0 (hU.1 u hu)
    · have hu0 : u0 < fill := by
        have : fill ≠ u0 := fun hh => hnf (hh ▸ List.mem_cons_self)
        omega
      have hrest : ∀ u ∈ U', fill < u := by
        intro u hu
        rw [List.countP_cons, if_pos (decide_eq_true hu0)] at hone
        have := List.countP_eq_zero.mp (Nat.le_zero.mp (Nat.le_of_succ_le_succ hone)) u hu
        have : fill ≠ u := fun hh => hnf (hh ▸ List.mem_cons_of_mem _ hu)
        simp only [decide_eq_true_eq] at *
        omega
      have hp : argsort (fill :: u0 :: U') = 1 :: 0 :: List.range' 2 U'.length := by
        apply argsort_eq_of
        · rw [List.length_cons, List.length_cons, List.range_eq_range', List.range'_succ, List.range'_succ]
          exact List.Perm.swap _ _ _
        · have hg : gather 0 (List.range' 2 U'.length) (fill :: u0 :: U') = U' := gather_range' 0 U' [fill, u0]
          rw [gather] at hg ⊢
          rw [List.map_cons, List.map_cons, hg]
          exact List.pairwise_cons.mpr ⟨List.forall_mem_cons.mpr ⟨hu0, hU.1⟩, List.pairwise_cons.mpr ⟨hrest, hU.2⟩⟩
      rw [hp]
      match xs, hxs with
      | x0 :: x1 :: xr, hxs =>
        have hl : xr.length = U'.length := by simpa using hxs
        have h1 : scatterAux (List.range' 2 xr.length) xr (x1 :: x0 :: xr) = x1 :: x0 :: xr := scatter_range' xr [x1, x0]
        have h2 : gather d (List.range' 2 xr.length) (x0 :: x1 :: xr) = xr := gather_range' d xr [x0, x1]
        rw [← hl, scatter, scatterAux, scatterAux, gather, List.map_cons, List.map_cons, ← gather, h2]
        exact h1

theorem ucd_fst (l : List Int) : (uniqueCountsD l).map (·.1) = uniqueValuesD l := by
  simp [uniqueCountsD, Function.comp_def]

theorem ucd_snd (l : List Int) : (uniqueCountsD l).map (·.2) = (uniqueValuesD l).map fun v => l.count v := by
  simp [uniqueCountsD, Function.comp_def]

theorem effectiveRow_facts {n : Nat} {es : Row} (fill : Int) (prune : Bool) (h : RowWF n es)
    (h1 : prune = true ∨ ExcludedStoredFill n fill es = false) :
    let es' := if prune then pruneRow fill es else es
    RowWF n es' ∧ densifyRow n fill es' = densifyRow n fill es ∧ (es'.length < n → fill ∉ es'.map (·.2)) := by
  cases prune with
  | true => exact ⟨pruneRow_wf fill h, densifyRow_prune fill h, fun _ => pruneRow_nofill fill es⟩
  | false =>
    simp only [Bool.false_eq_true, if_false]
    refine ⟨h, trivial, fun hk hm => ?_⟩
    obtain ⟨e, he, hv⟩ := List.mem_map.mp hm
    have h1 := h1.resolve_left Bool.false_ne_true
    rw [ExcludedStoredFill, decide_eq_true hk, Bool.true_and] at h1
    simpa [hv] using List.any_eq_false.mp h1 e he

/-- `unique_counts`, every variant.  `h1`: no fill value is stored next to an unstored cell, or the input is pruned
first.  `h2`: the re-ordering is the corrected one, or at most one distinct stored value lies below the fill value. -/
theorem uniqueCountsWith_dense (step : PermStep) (prune : Bool) {n : Nat} {es : Row} (fill : Int) (h : RowWF n es)
    (h1 : prune = true ∨ ExcludedStoredFill n fill es = false)
    (h2 : step = .gather ∨ ExcludedTwoBelow n fill (if prune then pruneRow fill es else es) = false) :
    uniqueCountsWith step prune n fill es
      = ((uniqueCountsD (densifyRow n fill es)).map (·.1), (uniqueCountsD (densifyRow n fill es)).map (·.2)) := by
  unfold uniqueCountsWith
  simp only []
  obtain ⟨hwf, hd, hnf⟩ := effectiveRow_facts fill prune h h1
  generalize (if prune = true then pruneRow fill es else es) = es' at hwf hd hnf h2 ⊢
  have hcore := uniqueValues_core fill hwf hnf
  rw [← hd, ucd_fst, ucd_snd, ucd_fst, ucd_snd]
  have hcount : ∀ v ∈ uniqueValuesD (es'.map (·.2)), (es'.map (·.2)).count v = (densifyRow n fill es').count v := by
    intro v hv
    rw [count_densifyRow fill hwf]
    split
    · next hvf =>
      have : ¬ es'.length < n := fun hk => hnf hk (hvf ▸ (mem_uniqueValuesD _ _).mp hv)
      omega
    · rfl
  split
  · next hk =>
    rw [if_pos hk] at hcore
    have hfill : n - es'.length = (densifyRow n fill es').count fill := by
      rw [count_densifyRow fill hwf, List.count_eq_zero.mpr (hnf hk), if_pos rfl, Nat.zero_add]
    rw [hfill, List.map_congr_left hcount, ← List.map_cons (f := fun v => (densifyRow n fill es').count v)]
    have hmem : ∀ j ∈ argsort (fill :: uniqueValuesD (es'.map (·.2))), j < (fill :: uniqueValuesD (es'.map (·.2))).length :=
      fun j hj => List.mem_range.mp (List.mem_mergeSort.mp hj)
    cases step with
    | gather => rw [gather_map 0 0 _ _ _ hmem, gather_argsort, hcore]
    | scatter =>
      have h2 := h2.resolve_left (fun h => nomatch h)
      rw [ExcludedTwoBelow, decide_eq_true hk, Bool.true_and, decide_eq_false_iff_not, Nat.not_le] at h2
      have hsg : ∀ {β : Type} (d : β) (xs : List β), _ :=
        fun d xs => scatter_eq_gather_of_le_one d fill _ (uniqueValuesD_sorted _)
          (fun hm => hnf hk ((mem_uniqueValuesD _ _).mp hm)) (Nat.le_of_lt_succ h2) xs
      rw [hsg 0 _ rfl, hsg 0 _ (List.length_map _), gather_map 0 0 _ _ _ hmem, gather_argsort, hcore]
  · next hk =>
    rw [if_neg hk] at hcore
    rw [List.map_congr_left hcount, hcore]

/-- `unique_values`, both variants -/
theorem uniqueValuesWith_dense (prune : Bool) {n : Nat} {es : Row} (fill : Int) (h : RowWF n es)
    (h1 : prune = true ∨ ExcludedStoredFill n fill es = false) :
    uniqueValuesWith prune n fill es = uniqueValuesD (densifyRow n fill es) := by
  unfold uniqueValuesWith
  simp only []
  obtain ⟨hwf, hd, hnf⟩ := effectiveRow_facts fill prune h h1
  generalize (if prune = true then pruneRow fill es else es) = es' at hwf hd hnf ⊢
  rw [← hd]
  exact uniqueValues_core fill hwf hnf

theorem keys_filter_eq (x : COO Int) (hc : x.Canonical) (f : Int) (hf : x.fill = f) :
    (x.entries.filter fun e => e.2 != f).map (·.1) = (allIdx x.shape).filter fun i => x.get i != f := by
  obtain ⟨hwf, hsorted⟩ := hc
  have hnd : (COO.keysOf x.entries).Nodup := hsorted.imp fun {a b} h hab => by subst hab; exact List.lt_irrefl _ h
  have hget : ∀ e ∈ x.entries, x.get e.1 = e.2 := fun e he => COO.lookup_of_mem hnd he
  refine strict_sorted_ext (fun a b => List.lt_asymm) (hsorted.sublist (List.filter_sublist.map _))
    ((allIdx_sorted x.shape).filter _) fun i => ?_
  rw [List.mem_map, List.mem_filter, mem_allIdx]
  constructor
  · rintro ⟨e, he, rfl⟩
    obtain ⟨hm, hv⟩ := List.mem_filter.mp he
    exact ⟨hwf e hm, by rw [hget e hm]; exact hv⟩
  · rintro ⟨_, hv⟩
    by_cases hk : i ∈ COO.keysOf x.entries
    · obtain ⟨e, he, rfl⟩ := List.mem_map.mp hk
      rw [hget e he] at hv
      exact ⟨e, List.mem_filter.mpr ⟨he, hv⟩, rfl⟩
    · rw [COO.get, COO.lookup_of_not_mem hk, hf, bne_self_eq_false] at hv
      cases hv

/-- **core of `nonzero_rowmajor`**, both variants -/
theorem nonzeroWith_dense (prune : Bool) (x : COO Int) (hc : x.Canonical) (hfill : x.fill = 0) (hsh : x.shape ≠ [])
    (h1 : prune = true ∨ ∀ e ∈ x.entries, e.2 ≠ 0) : nonzeroWith prune x = .ok (nonzeroD x) := by
  rw [nonzeroWith, if_neg (not_not_intro hfill), if_neg hsh, nonzeroD, ← keys_filter_eq x hc 0 hfill]
  cases prune with
  | true => rfl
  | false =>
    have h1 := h1.resolve_left Bool.false_ne_true
    rw [if_neg Bool.false_ne_true, List.filter_eq_self.mpr fun e he => by simpa using h1 e he]

/-- `_sort_coo`'s group detection loses and duplicates nothing -/
theorem runs_flatten : ∀ (es : List (Nat × Nat × Int)),
    (runs es).flatMap (fun gr => gr.2.map fun e => (gr.1, e.1, e.2)) = es
  | [] => rfl
  | (g, c, v) :: rest => by
    have ih := runs_flatten rest
    rw [runs]
    split
    · next g' r more heq =>
      rw [heq] at ih
      split
      · next hg => subst hg; rw [← ih]; rfl
      · rw [← ih]; rfl
    · next heq => rw [heq] at ih; rw [← ih]; rfl

/-- on entries sorted by group coordinate (a canonical 2-d array) the run labels are strictly increasing:
every group is exactly one run -/
theorem runs_labels : ∀ (es : List (Nat × Nat × Int)), (es.map (·.1)).Pairwise (· ≤ ·) →
    ((runs es).map (·.1)).Pairwise (· < ·) ∧ ∀ a ∈ (runs es).map (·.1), a ∈ es.map (·.1)
  | [], _ => ⟨.nil, fun _ h => h⟩
  | (g, c, v) :: rest, h => by
    rw [List.map_cons, List.pairwise_cons] at h
    obtain ⟨ih1, ih2⟩ := runs_labels rest h.2
    have hge : ∀ a ∈ (runs rest).map (·.1), g ≤ a := fun a ha => h.1 a (ih2 a ha)
    rw [runs]
    split
    · next g' r more heq =>
      rw [heq, List.map_cons] at ih1 ih2 hge
      rw [List.pairwise_cons] at ih1
      split
      · next hg =>
        subst hg
        exact ⟨List.pairwise_cons.mpr ih1, fun a ha =>
          List.mem_cons.mpr ((List.mem_cons.mp ha).imp_right fun h' => ih2 a (List.mem_cons_of_mem _ h'))⟩
      · next hg =>
        have hlt : g < g' := Nat.lt_of_le_of_ne (hge g' List.mem_cons_self) hg
        refine ⟨List.pairwise_cons.mpr ⟨fun a ha => ?_, List.pairwise_cons.mpr ih1⟩, fun a ha =>
          List.mem_cons.mpr ((List.mem_cons.mp ha).imp_right (ih2 a))⟩
        rcases List.mem_cons.mp ha with rfl | ha
        · exact hlt
        · exact Nat.lt_trans hlt (ih1.1 a ha)
    · exact ⟨List.pairwise_singleton _ _, fun a ha => List.mem_cons.mpr (.inl (List.mem_singleton.mp ha))⟩

def rowOf (g : Nat) (e : Nat × Nat × Int) : Option (Nat × Int) := if e.1 = g then some (e.2.1, e.2.2) else none

theorem filterMap_rowOf_run (g g' : Nat) (r : Row) :
    (r.map fun e => (g', e.1, e.2)).filterMap (rowOf g) = if g' = g then r else [] := by
  by_cases h : g' = g <;> simp [List.filterMap_map, rowOf, h, Function.comp_def]

theorem pick_run (g : Nat) (f : Row → Row) (hf : f [] = []) : ∀ (L : List (Nat × Row)), (L.map (·.1)).Nodup →
    L.flatMap (fun gr => if gr.1 = g then f gr.2 else []) = f (L.flatMap fun gr => if gr.1 = g then gr.2 else [])
  | [], _ => hf.symm
  | (g', r) :: L, hnd => by
    rw [List.map_cons, List.nodup_cons] at hnd
    rw [List.flatMap_cons, List.flatMap_cons, pick_run g f hf L hnd.2]
    split
    · -- the other runs carry other labels
      next h =>
      have : (L.flatMap fun gr => if gr.1 = g then gr.2 else []) = [] :=
        List.flatMap_eq_nil_iff.mpr fun gr hgr => if_neg fun hh => hnd.1 (List.mem_map.mpr ⟨gr, hgr, hh.trans h.symm⟩)
      rw [this, hf, List.append_nil, List.append_nil]
    · rfl

theorem sortCoo_row (descending : Bool) (n : Nat) (fill : Int) (es : List (Nat × Nat × Int))
    (hs : (es.map (·.1)).Pairwise (· ≤ ·)) (g : Nat) :
    (sortCoo descending n fill es).filterMap (rowOf g) = sortRow descending n fill (es.filterMap (rowOf g)) := by
  have hnd : ((runs es).map (·.1)).Nodup := (runs_labels es hs).1.imp Nat.ne_of_lt
  rw [sortCoo, List.filterMap_flatMap]
  conv => rhs; rw [← runs_flatten es, List.filterMap_flatMap]
  simp only [filterMap_rowOf_run]
  exact pick_run g (sortRow descending n fill) (by simp [sortRow]) (runs es) hnd

/-- the stored entries of column `j` as `_compute_minmax_args` masks them -/
def colOf (j : Nat) (e : Nat × Nat × Int) : Option (Nat × Int) := if e.2.1 = j then some (e.1, e.2.2) else none

theorem mem_computeMinmaxArgs {maxMode : Bool} {n : Nat} {fill : Int} {es : List (Nat × Nat × Int)} {p : Nat × Nat} :
    p ∈ computeMinmaxArgs maxMode n fill es ↔
      (∃ e ∈ es, e.2.1 = p.1) ∧ p.2 = argMinMaxCol maxMode n fill (es.filterMap (colOf p.1)) := by
  unfold computeMinmaxArgs
  simp only [List.mem_map, mem_dedupAdj, List.mem_mergeSort]
  constructor
  · rintro ⟨j, ⟨e, he, rfl⟩, rfl⟩
    exact ⟨⟨e, he, rfl⟩, rfl⟩
  · rintro ⟨⟨e, he, hj⟩, h2⟩
    exact ⟨p.1, ⟨e, he, hj⟩, Prod.ext rfl h2.symm⟩

end Search
end SparseV
