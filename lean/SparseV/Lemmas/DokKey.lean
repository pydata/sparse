/-
  SparseV.Lemmas.DokKey — `normalize_index` on int/slice keys against Python's selection rule
  (through the C02 theorems), the slice bounds of `DOK._setitem` (generated) against the
  normalised slice, invariants kept by the recursion, selected keys lie inside the shape.
-/
import SparseV.Lemmas.DokSet
import SparseV.Props.C02
import SparseV.Lemmas.Gen.Dok
namespace SparseV
namespace Dok
open Spec
variable {α : Type}

theorem ne_of_stepNonzero {a b c : Option Int} (h : stepNonzero (.slice a b c) = true) : c ≠ some 0 := by
  simpa [stepNonzero] using h

theorem getD_one_ne_zero {c : Option Int} (hc : c ≠ some 0) : c.getD 1 ≠ 0 := by
  cases c with
  | none => exact Int.one_ne_zero
  | some x => exact fun h => hc (congrArg some h)

theorem pySel_eq (p : KeyPart) (d : Nat) (hs : stepNonzero p = true) :
    pySel p d = (normPart p d).map fun x => selOf x.1 := by
  cases p with
  | int n =>
    simp only [normPart, pySel, C02.normalize_int_spec]
    split <;> rfl
  | slice a b c =>
    exact congrArg (fun l => Except.ok (Sel.range l))
      (C02.normalize_slice_range a b c d (Int.natCast_nonneg d) (ne_of_stepNonzero hs)).symm

theorem pySels_eq (key : List KeyPart) (shape : List Nat) (h : key.all stepNonzero = true) :
    pySels key shape = (normParts key shape).map nkSels := by
  induction key generalizing shape with
  | nil => cases shape <;> rfl
  | cons p ps ih =>
    cases shape with
    | nil => rfl
    | cons d ds =>
      rw [List.all_cons, Bool.and_eq_true] at h
      simp only [pySels, normParts, pySel_eq p d h.1, ih ds h.2]
      cases normPart p d with
      | error e => rfl
      | ok x => cases normParts ps ds <;> rfl

theorem padKey_stepNonzero (key : List KeyPart) (n : Nat) (h : key.all stepNonzero = true) :
    (padKey key n).all stepNonzero = true := by
  simp only [padKey, List.all_append, h, Bool.true_and, List.all_eq_true]
  intro x hx
  rw [(List.mem_replicate.mp hx).2]
  rfl

/-- the bounds function visits, on every slice of the key, exactly the indices Python's
`range(*slice(start, stop, step).indices(dim))` lists (and its step is not 0) -/
def PyBounds (bounds : Option Int → Option Int → Option Int → Int → Int × Int × Int) :
    List KeyPart → List Nat → Prop
  | .slice a b c :: ps, d :: ds =>
    ((bounds (some (normalizeSlice a b c d).1) (some (normalizeSlice a b c d).2.1)
        (some (normalizeSlice a b c d).2.2) d).2.2 ≠ 0 ∧
      rangeOf (bounds (some (normalizeSlice a b c d).1) (some (normalizeSlice a b c d).2.1)
        (some (normalizeSlice a b c d).2.2) d) = rangeOf (pyAdjust a b (c.getD 1) d))
    ∧ PyBounds bounds ps ds
  | .int _ :: ps, _ :: ds => PyBounds bounds ps ds
  | _, _ => True

theorem normParts_cons_ok {p : KeyPart} {ps : List KeyPart} {d : Nat} {ds : List Nat} {nk : List (NPart × Int)}
    (h : normParts (p :: ps) (d :: ds) = .ok nk) :
    ∃ x xs, normPart p d = .ok x ∧ normParts ps ds = .ok xs ∧ nk = x :: xs := by
  rw [normParts] at h
  cases h1 : normPart p d with
  | error e => rw [h1] at h; cases h
  | ok x =>
    cases h2 : normParts ps ds with
    | error e => rw [h1, h2] at h; cases h
    | ok xs => rw [h1, h2] at h; cases h; exact ⟨x, xs, rfl, rfl, rfl⟩

theorem boundsOKAll_of_pyBounds (bounds : Option Int → Option Int → Option Int → Int → Int × Int × Int)
    (key : List KeyPart) (shape : List Nat) (nk : List (NPart × Int)) (hall : key.all stepNonzero = true)
    (h : normParts key shape = .ok nk) (hpy : PyBounds bounds key shape) : BoundsOKAll bounds nk := by
  induction key generalizing shape nk with
  | nil =>
    cases shape with
    | nil => cases h; trivial
    | cons d ds => cases h
  | cons p ps ih =>
    cases shape with
    | nil => cases h
    | cons d ds =>
      rw [List.all_cons, Bool.and_eq_true] at hall
      obtain ⟨x, xs, h1, h2, rfl⟩ := normParts_cons_ok h
      cases p with
      | int n =>
        rw [normPart] at h1
        cases hn : normalizeInt n d with
        | error e => rw [hn] at h1; cases h1
        | ok m => rw [hn] at h1; cases h1; exact ih ds xs hall.2 h2 hpy
      | slice a b c =>
        cases h1
        have hr := C02.normalize_slice_range a b c d (Int.natCast_nonneg d) (ne_of_stepNonzero hall.1)
        exact ⟨⟨hpy.1.1, hpy.1.2.trans hr.symm⟩, ih ds xs hall.2 h2 hpy.2⟩
/-- clamping `m ≥ 0` to a stop `E ≤ d` and then once more as `_setitem` does gives the same pair, whether
or not the stop is negative (in which case both give the empty pair at the stop) -/
theorem reclip_pos {m E d : Int} (st : Int) (hm : 0 ≤ m) (hE : E ≤ d) :
    (if max (min m E) 0 > min E d then (min E d, min E d, st) else (max (min m E) 0, min E d, st))
      = (min m E, E, st) := by
  rw [Int.min_eq_left hE]
  by_cases h : 0 ≤ E
  · rw [Int.max_eq_left (Int.le_min.mpr ⟨hm, h⟩), if_neg (Int.not_lt.mpr (Int.min_le_right m E))]
  · have h := Int.lt_of_not_ge h
    rw [Int.min_eq_right (Int.le_trans (Int.le_of_lt h) hm), Int.max_eq_right (Int.le_of_lt h), if_pos h]

theorem reclip_neg {m E d : Int} (st : Int) (hm : m ≤ d - 1) (hE : -1 ≤ E) :
    (if min (max m E) (d - 1) < max E (-1) then (max E (-1), max E (-1), st) else (min (max m E) (d - 1), max E (-1), st))
      = (max m E, E, st) := by
  rw [Int.max_eq_left hE]
  by_cases h : E ≤ d - 1
  · rw [Int.min_eq_left (Int.max_le.mpr ⟨hm, h⟩), if_neg (Int.not_lt.mpr (Int.le_max_right m E))]
  · have h := Int.lt_of_not_ge h
    rw [Int.max_eq_right (Int.le_trans hm (Int.le_of_lt h)), Int.min_eq_right (Int.le_of_lt h), if_pos h]

/-- re-clipping a clipped slice changes nothing: the reference bounds return the normalised slice itself -/
theorem fixed_bounds_clip (s e st d : Int) :
    dokSliceBoundsFixed (some (Gen.clipSlice s e st d).1) (some (Gen.clipSlice s e st d).2.1)
      (some (Gen.clipSlice s e st d).2.2) d = Gen.clipSlice s e st d := by
  simp only [dokSliceBoundsFixed, Gen.clipSlice_eq, Ref.clipSlice]
  by_cases h : 0 < st
  · simp only [h, if_true, gt_iff_lt]
    exact reclip_pos st (Int.le_max_right s 0) (Int.min_le_right e d)
  · simp only [h, if_false, gt_iff_lt]
    exact reclip_neg st (Int.min_le_right s (d - 1)) (Int.le_max_right e (-1))
theorem fixed_bounds_normalizeSlice (a b c : Option Int) (d : Int) :
    dokSliceBoundsFixed (some (normalizeSlice a b c d).1) (some (normalizeSlice a b c d).2.1)
      (some (normalizeSlice a b c d).2.2) d = normalizeSlice a b c d :=
  fixed_bounds_clip _ _ _ d

theorem normalizeSlice_step (a b c : Option Int) (d : Int) : (normalizeSlice a b c d).2.2 = c.getD 1 := by
  rw [normalizeSlice_eq, Ref.normalizeSlice_step]

theorem pyBounds_fixed : ∀ (key : List KeyPart) (shape : List Nat), key.all stepNonzero = true →
    PyBounds dokSliceBoundsFixed key shape
  | [], _, _ => trivial
  | .int _ :: _, [], _ => trivial
  | .slice _ _ _ :: _, [], _ => trivial
  | .int _ :: ps, _ :: ds, h => by
    rw [List.all_cons, Bool.and_eq_true] at h
    exact pyBounds_fixed ps ds h.2
  | .slice a b c :: ps, d :: ds, h => by
    rw [List.all_cons, Bool.and_eq_true] at h
    have hc := ne_of_stepNonzero h.1
    refine ⟨?_, pyBounds_fixed ps ds h.2⟩
    rw [fixed_bounds_normalizeSlice, normalizeSlice_step]
    exact ⟨getD_one_ne_zero hc, C02.normalize_slice_range a b c d (Int.natCast_nonneg d) hc⟩

theorem loopS_preserves {σ : Type} (P : σ → Prop) (f : Int → Nat → σ → σ × Option Err)
    (hf : ∀ k i s, P s → P (f k i s).1) (ks : List Int) (i : Nat) (s : σ) (h : P s) : P (loopS f ks i s).1 := by
  induction ks generalizing i s with
  | nil => exact h
  | cons k ks ih =>
    have := hf k i s h
    rw [loopS]
    split
    · next he => rwa [he] at this
    · next he =>
      rw [he] at this
      exact ih (i + 1) _ this

/-- whatever every single store keeps, `_setitem` keeps — also when it raises half-way -/
theorem setRec_preserves [DecidableEq α]
    (bounds : Option Int → Option Int → Option Int → Int → Int × Int × Int) (fill : α)
    (P : List (DKey × α) → Prop) (hP : ∀ es k x, P es → P (store fill es k x))
    (nk : List (NPart × Int)) (pre : DKey) (v : Val α) (es : List (DKey × α)) (h : P es) :
    P (setRec bounds fill nk pre v es).1 := by
  induction nk generalizing pre v es with
  | nil =>
    rw [setRec]
    split
    · exact h
    · split
      · exact hP _ _ _ h
      · exact h
  | cons hd rest ih =>
    obtain ⟨part, dim⟩ := hd
    cases part with
    | int n => exact ih _ v es h
    | slice a b c =>
      simp only [setRec]
      split
      · exact h
      · split
        · exact h
        · refine loopS_preserves P _ (fun k i s hs => ?_) _ _ _ h
          split
          · exact ih _ v s hs
          · split
            · exact hs
            · exact ih _ _ s hs

theorem findPos_mem {xs : List Int} {i : Int} {j : Nat} (h : findPos xs i = some j) : i ∈ xs := by
  induction xs generalizing j with
  | nil => cases h
  | cons x xs ih =>
    rw [findPos] at h
    split at h
    · next hx => exact hx ▸ List.mem_cons_self
    · cases hf : findPos xs i with
      | none => rw [hf] at h; cases h
      | some j' => exact List.mem_cons_of_mem _ (ih hf)

theorem pySel_inb {q : KeyPart} {d : Nat} {s : Sel} {ss : List Sel} {i : Int} {is : DKey} {p : List Nat}
    (hq : stepNonzero q = true) (hs : pySel q d = .ok s) (hp : posOf (s :: ss) (i :: is) = some p) :
    (0 ≤ i ∧ i < (d : Int)) ∧ ∃ p', posOf ss is = some p' := by
  cases q with
  | int n =>
    rw [pySel] at hs
    split at hs
    · next hr =>
      cases hs
      have hw : 0 ≤ (if n < 0 then n + (d : Int) else n) ∧ (if n < 0 then n + (d : Int) else n) < d := by
        split <;> omega
      rw [posOf] at hp
      generalize (if n < 0 then n + (d : Int) else n) = w at hw hp
      split at hp
      · next hi => exact ⟨hi ▸ hw, p, hp⟩
      · cases hp
    · cases hs
  | slice a b c =>
    cases hs
    rw [posOf] at hp
    cases hf : findPos (rangeOf (pyAdjust a b (c.getD 1) d)) i with
    | none => rw [hf] at hp; cases hp
    | some j =>
      cases hq' : posOf ss is with
      | none => rw [hf, hq'] at hp; cases hp
      | some p' =>
        exact ⟨mem_rangeOf_pyAdjust (Int.natCast_nonneg d) (getD_one_ne_zero (ne_of_stepNonzero hq)) (findPos_mem hf),
          p', rfl⟩

theorem pySels_inb (key : List KeyPart) (shape : List Nat) (sels : List Sel)
    (hall : key.all stepNonzero = true) (h : pySels key shape = .ok sels) (k : DKey) (p : List Nat)
    (hp : posOf sels k = some p) : InBI k shape := by
  induction key generalizing shape sels k p with
  | nil =>
    cases shape with
    | nil =>
      cases h
      cases k with
      | nil => trivial
      | cons _ _ => cases hp
    | cons _ _ => cases h
  | cons q qs ih =>
    cases shape with
    | nil => cases h
    | cons d ds =>
      rw [List.all_cons, Bool.and_eq_true] at hall
      rw [pySels] at h
      cases h1 : pySel q d with
      | error e => rw [h1] at h; cases h
      | ok x =>
        cases h2 : pySels qs ds with
        | error e => rw [h1, h2] at h; cases h
        | ok xs =>
          rw [h1, h2] at h
          cases h
          cases k with
          | nil => cases x <;> cases hp
          | cons i is =>
            obtain ⟨hi, p', hp'⟩ := pySel_inb hall.1 h1 hp
            exact ⟨hi, ih ds xs hall.2 h2 is p' hp'⟩

end Dok
end SparseV
