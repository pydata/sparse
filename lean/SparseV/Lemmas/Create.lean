/-
  SparseV.Lemmas.Create — helper lemmas for property C19: what the generated `eye` prefix means, the loop
  invariants of algA / algD / reverse, the case analysis of the generated sampler selection, and the facts
  about the COO constructor / reshape that `random` relies on (a strictly increasing index list passes
  through sort and duplicate summation unchanged; `unravel` is strictly monotone).
-/
import SparseV.Model.Create
import SparseV.Spec.Create
import SparseV.Lemmas.Assoc
import SparseV.Lemmas.Index
import SparseV.Lemmas.Gen.Create
namespace SparseV
namespace Create
open SparseV.COO SparseV.Spec

theorem eyeLen_none (N k : Int) : Gen.eyeLen N none k = Gen.eyeLen N (some N) k := by
  simp only [Gen.eyeLen_eq, Ref.eyeLen, Option.getD]

def diag (r c D : Nat) : List (Idx × Int) := (List.range D).map fun t => ([t + r, t + c], 1)

/-- with `k = c - r`, one of `r`, `c` zero: the diagonal starts in row `r`, column `c` -/
theorem eyeEntries_eq (L r c : Nat) (h : r = 0 ∨ c = 0) : eyeEntries L ((c : Int) - r) = diag r c L := by
  unfold eyeEntries diag
  apply List.map_congr_left
  intro t _
  simp only [Gen.eyeCoord_eq, Ref.eyeCoord]
  have h1 : (if (c : Int) - r < 0 then (t : Int) - ((c : Int) - r) else t).toNat = t + r := by
    rcases h with rfl | rfl <;> split <;> omega
  have h2 : (if (c : Int) - r > 0 then (t : Int) + ((c : Int) - r) else t).toNat = t + c := by
    rcases h with rfl | rfl <;> split <;> omega
  rw [h1, h2]

theorem natCast_lt_max_zero (t : Nat) (a : Int) : (t : Int) < max a 0 ↔ (t : Int) < a := by omega

theorem lt_eyeLen_iff (N m r c : Nat) (h : r = 0 ∨ c = 0) (t : Nat) :
    t < (Gen.eyeLen N (some (m : Int)) ((c : Int) - r)).toNat ↔ t + r < N ∧ t + c < m := by
  rw [Int.lt_toNat]
  simp only [Gen.eyeLen_eq, Ref.eyeLen, Option.getD]
  -- `t` is below a minimum when it is below each of its arguments; what is left is linear
  split
  · simp only [natCast_lt_max_zero, Int.lt_min]
    omega
  · split
    · simp only [natCast_lt_max_zero, Int.lt_min]
      omega
    · simp only [Int.lt_min]
      omega

/-- `eye` as one literal: the branch for `data_length = 0` stores the empty diagonal too, and `M = None` is `M = N` -/
theorem eye_eq (N : Nat) (M : Option Nat) (k : Int) :
    ∃ r c D : Nat, k = (c : Int) - r ∧ (r = 0 ∨ c = 0) ∧ (∀ t : Nat, t < D ↔ t + r < N ∧ t + c < M.getD N) ∧
      eye N M k = { shape := [N, M.getD N], entries := diag r c D, fill := 0 } := by
  obtain ⟨r, c, rfl, h⟩ : ∃ r c : Nat, k = (c : Int) - r ∧ (r = 0 ∨ c = 0) := by
    rcases Int.le_total 0 k with hk | hk
    · exact ⟨0, k.toNat, by omega, Or.inl rfl⟩
    · exact ⟨(-k).toNat, 0, by omega, Or.inr rfl⟩
  have hcore : ∀ (m : Nat) (L : Int),
      eyeCore N m L ((c : Int) - r) = { shape := [N, m], entries := diag r c L.toNat, fill := 0 } := by
    intro m L
    rw [← eyeEntries_eq _ r c h]
    unfold eyeCore
    split
    · rename_i h; rw [h]; rfl
    · rfl
  refine ⟨r, c, _, rfl, h, lt_eyeLen_iff N (M.getD N) r c h, ?_⟩
  cases M with
  | none => rw [eye, eyeLen_none, hcore]; rfl
  | some m => rw [eye, hcore]; rfl

theorem diag_length (r c D : Nat) : (diag r c D).length = D := by
  rw [diag, List.length_map, List.length_range]

theorem mem_diag {r c D : Nat} {e : Idx × Int} (h : e ∈ diag r c D) : ∃ t < D, e = ([t + r, t + c], 1) := by
  obtain ⟨t, ht, rfl⟩ := List.mem_map.mp h
  exact ⟨t, List.mem_range.mp ht, rfl⟩

theorem diag_sorted (r c D : Nat) : ((diag r c D).map (·.1)).Pairwise (· < ·) := by
  rw [diag, List.map_map, List.pairwise_map]
  exact List.Pairwise.imp (fun h => List.cons_lt_cons_iff.mpr (Or.inl (by omega))) List.pairwise_lt_range

theorem lookup_diag (r c D i j : Nat) :
    lookup (diag r c D) 0 [i, j] = if r ≤ i ∧ i - r < D ∧ i + c = j + r then 1 else 0 := by
  unfold diag
  split
  · rename_i h
    apply lookup_map_hit
    refine ⟨i - r, List.mem_range.mpr h.2.1, ?_⟩
    rw [Nat.sub_add_cancel h.1, show i - r + c = j by omega]
  · rename_i h
    apply lookup_map_miss
    intro t ht hk
    rw [List.cons.injEq, List.cons.injEq] at hk
    have := List.mem_range.mp ht
    exact h (by omega)

theorem length_filter_range (p : Nat → Bool) (a d n : Nat) (hn : a + d ≤ n)
    (hp : ∀ i, i < n → (p i = true ↔ (a ≤ i ∧ i < a + d))) : ((List.range n).filter p).length = d := by
  have hsplit : List.range n = List.range' 0 a ++ (List.range' a d ++ List.range' (a + d) (n - (a + d))) := by
    have e : n = a + (d + (n - (a + d))) := by omega
    rw [List.range_eq_range']
    conv => lhs; rw [e]
    rw [← List.range'_append_1, ← List.range'_append_1, Nat.zero_add]
  have h1 : (List.range' 0 a).filter p = [] := by
    rw [List.filter_eq_nil_iff]
    intro i hi hpi
    have := List.mem_range'_1.mp hi
    have := (hp i (by omega)).mp hpi
    omega
  have h2 : (List.range' a d).filter p = List.range' a d := by
    rw [List.filter_eq_self]
    intro i hi
    have := List.mem_range'_1.mp hi
    exact (hp i (by omega)).mpr this
  have h3 : (List.range' (a + d) (n - (a + d))).filter p = [] := by
    rw [List.filter_eq_nil_iff]
    intro i hi hpi
    have := List.mem_range'_1.mp hi
    have := (hp i (by omega)).mp hpi
    omega
  rw [hsplit, List.filter_append, List.filter_append, h1, h2, h3, List.nil_append, List.append_nil, List.length_range']

theorem algASkip_bounds (r : Nat) (top : Int) (h : 0 ≤ top) : 0 ≤ algASkip r top ∧ algASkip r top ≤ top := by
  unfold algASkip
  split <;> omega

/-- invariant of the `while n >= 2` loop of algA -/
theorem algAGo_spec : ∀ (m t : Nat) (N top prev : Int) (r : Nat → Nat), 0 ≤ top →
    (algAGo m t N top prev r).1.length = m ∧
    (algAGo m t N top prev r).1.Pairwise (· < ·) ∧
    (∀ x ∈ (algAGo m t N top prev r).1, prev < x ∧ x ≤ (algAGo m t N top prev r).2.2) ∧
    prev ≤ (algAGo m t N top prev r).2.2 ∧
    (algAGo m t N top prev r).2.2 + (algAGo m t N top prev r).2.1 = prev + N ∧
    (N - top) - m ≤ (algAGo m t N top prev r).2.1
  | 0, t, N, top, prev, r, h => by
    simp only [algAGo, List.length_nil, List.Pairwise.nil, List.not_mem_nil, false_imp_iff, implies_true, true_and]
    omega
  | m + 1, t, N, top, prev, r, h => by
    obtain ⟨hs0, hs1⟩ := algASkip_bounds (r t) top h
    obtain ⟨h1, h2, h3, h4, h5, h6⟩ :=
      algAGo_spec m (t + 1) (N - algASkip (r t) top - 1) (top - algASkip (r t) top) (prev + algASkip (r t) top + 1) r (by omega)
    simp only [algAGo, List.length_cons, List.pairwise_cons, List.mem_cons]
    refine ⟨by omega, ⟨?_, h2⟩, ?_, by omega, by omega, by omega⟩
    · intro x hx; have := (h3 x hx).1; omega
    · intro x hx
      rcases hx with rfl | hx
      · omega
      · have := h3 x hx; omega

theorem algAFinalN_pos (n N : Int) (hn : 1 ≤ n) (hN : n ≤ N) (r : Nat → Nat) : 1 ≤ algAFinalN n N r := by
  have := (algAGo_spec (n - 1).toNat 0 N (N - n) (-1) r (by omega)).2.2.2.2.2
  unfold algAFinalN
  omega

theorem algA_ok (n N : Int) (hn : 1 ≤ n) (hN : n ≤ N) (r : Nat → Nat) (last : Int)
    (hl0 : 0 ≤ last) (hl1 : last < algAFinalN n N r) :
    ∃ arr, algA n N r last = .ok arr ∧ arr.length = n.toNat ∧ arr.Pairwise (· < ·) ∧ ∀ x ∈ arr, 0 ≤ x ∧ x < N := by
  obtain ⟨h1, h2, h3, h4, h5, h6⟩ := algAGo_spec (n - 1).toNat 0 N (N - n) (-1) r (by omega)
  unfold algAFinalN at hl1
  have e1 : ¬ n < 0 := by omega
  have e2 : ¬ n = 0 := by omega
  refine ⟨(algAGo (n - 1).toNat 0 N (N - n) (-1) r).1 ++ [(algAGo (n - 1).toNat 0 N (N - n) (-1) r).2.2 + last + 1],
    by simp only [algA, e1, e2, if_false], ?_, ?_, ?_⟩
  · simp only [List.length_append, h1, List.length_singleton]; omega
  · rw [List.pairwise_append]
    refine ⟨h2, by simp, ?_⟩
    intro a ha b hb
    have := (h3 a ha).2
    simp only [List.mem_singleton] at hb
    omega
  · intro x hx
    rcases List.mem_append.mp hx with hx | hx
    · have := h3 x hx; omega
    · simp only [List.mem_singleton] at hx; omega

theorem algDPick_spec (qu1 : Int) : ∀ (o : List Cand) (S : Int) (o' : List Cand),
    algDPick qu1 o = some (S, o') → S < qu1 ∧ (S, true) ∈ o ∧ (∀ c ∈ o', c ∈ o) ∧ o'.length < o.length
  | [], S, o', h => by simp [algDPick] at h
  | c :: rest, S, o', h => by
    simp only [algDPick] at h
    split at h
    · rename_i hc
      simp only [Option.some.injEq, Prod.mk.injEq] at h
      obtain ⟨rfl, rfl⟩ := h
      refine ⟨by omega, ?_, fun c hc => List.mem_cons_of_mem _ hc, by simp⟩
      have : c = (c.1, true) := by rw [← hc.2]
      rw [this]; simp
    · obtain ⟨h1, h2, h3, h4⟩ := algDPick_spec qu1 rest S o' h
      exact ⟨h1, List.mem_cons_of_mem _ h2, fun c hc => List.mem_cons_of_mem _ (h3 c hc), by simp; omega⟩

/-- invariant of the `while n > 1` loop of algD -/
theorem algDGo_spec : ∀ (m : Nat) (qu1 prev : Int) (o : List Cand) (arr : List Int) (o' : List Cand),
    (∀ c ∈ o, 0 ≤ c.1) → algDGo m qu1 prev o = .ok (arr, o') →
    arr.length = m ∧ arr.Pairwise (· < ·) ∧ (∀ x ∈ arr, prev < x ∧ x ≤ prev + m + qu1 - 1) ∧ (∀ c ∈ o', c ∈ o)
  | 0, qu1, prev, o, arr, o', _, h => by
    simp only [algDGo, Except.ok.injEq, Prod.mk.injEq] at h
    obtain ⟨rfl, rfl⟩ := h
    simp
  | m + 1, qu1, prev, o, arr, o', ho, h => by
    simp only [algDGo] at h
    split at h
    · cases h
    · rename_i S o1 hp
      obtain ⟨p1, p2, p3, _⟩ := algDPick_spec qu1 o S o1 hp
      have hS : 0 ≤ S := ho _ p2
      split at h
      · cases h
      · rename_i arr1 o2 hg
        simp only [Except.ok.injEq, Prod.mk.injEq] at h
        obtain ⟨rfl, rfl⟩ := h
        obtain ⟨g1, g2, g3, g4⟩ := algDGo_spec m (qu1 - S) (prev + S + 1) o1 arr1 o2 (fun c hc => ho c (p3 c hc)) hg
        refine ⟨by simp [g1], ?_, ?_, fun c hc => p3 c (g4 c hc)⟩
        · rw [List.pairwise_cons]
          exact ⟨fun x hx => (g3 x hx).1, g2⟩
        · intro x hx
          rcases List.mem_cons.mp hx with rfl | hx
          · omega
          · have := g3 x hx; omega

theorem algDGo_error : ∀ (m : Nat) (qu1 prev : Int) (o : List Cand) (e : Err),
    algDGo m qu1 prev o = .error e → e = .hang
  | 0, _, _, _, e, h => by simp [algDGo] at h
  | m + 1, qu1, prev, o, e, h => by
    simp only [algDGo] at h
    split at h
    · simp only [Except.error.injEq] at h; exact h.symm
    · split at h
      · rename_i e' hg
        simp only [Except.error.injEq] at h
        subst h
        exact algDGo_error m _ _ _ _ hg
      · cases h

theorem mem_arangeFrom (i : Int) (c : Nat) (x : Int) :
    x ∈ (List.range c).map (fun (d : Nat) => i + (d : Int)) ↔ (i ≤ x ∧ x < i + c) := by
  simp only [List.mem_map, List.mem_range]
  constructor
  · rintro ⟨d, hd, rfl⟩; omega
  · intro h; exact ⟨(x - i).toNat, by omega, by omega⟩

theorem pairwise_arangeFrom (i : Int) (c : Nat) :
    ((List.range c).map (fun (d : Nat) => i + (d : Int))).Pairwise (· < ·) := by
  rw [List.pairwise_map]
  exact List.Pairwise.imp (fun h => by omega) List.pairwise_lt_range

/-- invariant of the `for i in range(N)` loop of `reverse` on a strictly increasing, in-range `inv` -/
theorem reverseGo_spec : ∀ (c : Nat) (i : Int) (inv : List Int), inv.Pairwise (· < ·) →
    (∀ v ∈ inv, i ≤ v ∧ v < i + c) →
    (reverseGo c i inv).2 = [] ∧ (reverseGo c i inv).1.Pairwise (· < ·) ∧
    (∀ x, x ∈ (reverseGo c i inv).1 ↔ (i ≤ x ∧ x < i + c ∧ x ∉ inv)) ∧
    (reverseGo c i inv).1.length + inv.length = c
  | 0, i, inv, _, hr => by
    cases inv with
    | nil => simp [reverseGo]
    | cons v inv => have := hr v (List.mem_cons_self ..); omega
  | c + 1, i, [], _, _ => by
    simp only [reverseGo, List.not_mem_nil, not_false_eq_true, and_true, List.length_map, List.length_range,
      List.length_nil, true_and]
    exact ⟨pairwise_arangeFrom i (c + 1), fun x => by rw [mem_arangeFrom]⟩
  | c + 1, i, v :: inv, hp, hr => by
    rw [List.pairwise_cons] at hp
    have hv := hr v (List.mem_cons_self ..)
    simp only [reverseGo]
    split
    · rename_i hiv
      subst hiv
      obtain ⟨h1, h2, h3, h4⟩ := reverseGo_spec c (i + 1) inv hp.2 (fun w hw => by
        have := hp.1 w hw; have := hr w (List.mem_cons_of_mem _ hw); omega)
      refine ⟨h1, h2, ?_, by simp only [List.length_cons]; omega⟩
      intro x
      rw [h3 x, List.mem_cons]
      constructor
      · rintro ⟨a, b, c'⟩; exact ⟨by omega, by omega, fun h => by rcases h with h | h; omega; exact c' h⟩
      · rintro ⟨a, b, c'⟩
        have hne : x ≠ i := fun h => c' (Or.inl h)
        exact ⟨by omega, by omega, fun h => c' (Or.inr h)⟩
    · rename_i hiv
      obtain ⟨h1, h2, h3, h4⟩ := reverseGo_spec c (i + 1) (v :: inv) (List.pairwise_cons.mpr hp) (fun w hw => by
        have := hr w hw
        rcases List.mem_cons.mp hw with rfl | hw'
        · omega
        · have := hp.1 w hw'; omega)
      refine ⟨h1, ?_, ?_, by simp only [List.length_cons] at h4 ⊢; omega⟩
      · rw [List.pairwise_cons]
        exact ⟨fun x hx => by have := (h3 x).mp hx; omega, h2⟩
      · intro x
        rw [List.mem_cons, h3 x]
        constructor
        · rintro (rfl | ⟨a, b, c'⟩)
          · refine ⟨by omega, by omega, ?_⟩
            intro h
            rcases List.mem_cons.mp h with h | h
            · exact hiv h
            · have := hp.1 x h; omega
          · exact ⟨by omega, by omega, c'⟩
        · rintro ⟨a, b, c'⟩
          by_cases hx : x = i
          · exact Or.inl hx
          · exact Or.inr ⟨by omega, by omega, c'⟩

theorem reverse_ok (inv : List Int) (N : Int) (hN0 : 0 ≤ N) (hp : inv.Pairwise (· < ·)) (hr : ∀ v ∈ inv, 0 ≤ v ∧ v < N) :
    ∃ out, reverse inv N = .ok out ∧ out.Pairwise (· < ·) ∧ (∀ x, x ∈ out ↔ (0 ≤ x ∧ x < N ∧ x ∉ inv)) ∧
      (out.length : Int) + inv.length = N := by
  obtain ⟨h1, h2, h3, h4⟩ := reverseGo_spec N.toNat 0 inv hp (fun v hv => by have := hr v hv; omega)
  have hlen : ¬ N < (inv.length : Int) := by omega
  refine ⟨(reverseGo N.toNat 0 inv).1, by simp only [reverse, hlen, if_false, h1, if_true], h2, ?_, by omega⟩
  intro x
  rw [h3 x, Int.zero_add, Int.toNat_of_nonneg hN0]

theorem algD_spec (n N : Int) (o : List Cand) (ho : ∀ c ∈ o, 0 ≤ c.1) (arr : List Int) (o' : List Cand)
    (h : algD n N o = .ok (arr, o')) :
    arr.length = n.toNat ∧ 1 ≤ n ∧ arr.Pairwise (· < ·) ∧ (∀ x ∈ arr, 0 ≤ x ∧ x < N - 1) ∧ (∀ c ∈ o', c ∈ o) := by
  unfold algD at h
  split at h
  · cases h
  · split at h
    · cases h
    · obtain ⟨g1, g2, g3, g4⟩ := algDGo_spec n.toNat (N - n) (-1) o arr o' ho h
      refine ⟨g1, by omega, g2, fun x hx => ?_, g4⟩
      have := g3 x hx
      omega

theorem algD_error (n N : Int) (hn : 1 ≤ n) (o : List Cand) (e : Err) (h : algD n N o = .error e) : e = .hang := by
  unfold algD at h
  have e1 : ¬ n < 0 := by omega
  have e2 : ¬ n = 0 := by omega
  simp only [e1, e2, if_false] at h
  exact algDGo_error _ _ _ _ _ h

theorem arange_spec (N : Int) : (arange N).length = N.toNat ∧ (arange N).Pairwise (· < ·) ∧ ∀ x ∈ arange N, 0 ≤ x ∧ x < N := by
  have e : arange N = (List.range N.toNat).map fun (d : Nat) => 0 + (d : Int) :=
    List.map_congr_left fun d _ => (Int.zero_add _).symm
  rw [e]
  refine ⟨by rw [List.length_map, List.length_range], pairwise_arangeFrom 0 _, fun x hx => ?_⟩
  have := (mem_arangeFrom 0 _ x).mp hx
  omega

/-- outcome of an index sampler: a correct sample, or the oracle ran out -/
def Sampled (n N : Int) (res : Except Err (List Int)) : Prop :=
  (∀ ind, res = .ok ind → IsSample n N ind) ∧ ∀ e, res = .error e → e = .hang

theorem Sampled.ok {n N : Int} {ind : List Int} (h : IsSample n N ind) : Sampled n N (.ok ind) :=
  ⟨fun _ e => Except.ok.inj e ▸ h, nofun⟩

theorem Sampled.hang {n N : Int} : Sampled n N (.error .hang) :=
  ⟨nofun, fun _ e => (Except.error.inj e).symm⟩

theorem Sampled.reverse {n N : Int} {a : List Int} (h : IsSample (N - n) N a) (hn : 0 ≤ n) (hN : n ≤ N) :
    Sampled n N (reverse a N) := by
  obtain ⟨h1, h2, h3⟩ := h
  obtain ⟨out, e, g2, g3, g4⟩ := reverse_ok a N (by omega) h2 h3
  rw [e]
  exact .ok ⟨by omega, g2, fun x hx => by have := (g3 x).mp hx; omega⟩

theorem algD_cases (n N : Int) (hn : 1 ≤ n) (o : List Cand) (ho : ∀ c ∈ o, 0 ≤ c.1) :
    (∃ a o', algD n N o = .ok (a, o') ∧ IsSample n N a) ∨ algD n N o = .error .hang := by
  cases h : algD n N o with
  | error e => exact Or.inr (by rw [algD_error n N hn o e h])
  | ok res =>
    obtain ⟨d1, _, d3, d4, _⟩ := algD_spec n N o ho res.1 res.2 h
    exact Or.inl ⟨res.1, res.2, rfl, d1, d3, fun x hx => ⟨(d4 x hx).1, by have := (d4 x hx).2; omega⟩⟩

/-- `random_state.choice(N, n)` with `n < 2` is a sample of `n` -/
theorem choice_isSample {n N c : Int} (h0 : 0 ≤ n) (h2 : n < 2) (hN : n ≤ N) (hc : 0 < N → 0 ≤ c ∧ c < N) :
    IsSample n N (choice n c) := by
  unfold choice
  split
  · exact ⟨by rw [List.length_nil]; omega, List.Pairwise.nil, nofun⟩
  · exact ⟨by rw [List.length_singleton]; omega, List.pairwise_singleton .., fun x hx => List.mem_singleton.mp hx ▸ hc (by omega)⟩

theorem random_idx (nnz elements : Int) (dge1 : Bool) (o : Oracle) (h0 : 0 ≤ nnz) (h1 : nnz ≤ elements)
    (hd : dge1 = true → nnz = elements) (ok : OracleOK nnz elements dge1 o) :
    Sampled nnz elements (randomIdx nnz elements dge1 o) := by
  obtain ⟨okc, okd, okl⟩ := ok
  unfold randomIdx
  -- `bk`: the selection returns leaf number `k`
  rcases Gen.randomBranch_cases nnz elements dge1 h0 h1 hd with
    ⟨b0, c⟩ | ⟨b1, c⟩ | ⟨b2, c⟩ | ⟨b3, c⟩ | ⟨b4, c⟩ | ⟨b5, c⟩ | ⟨b6, c⟩
  · rw [b0]
    exact .ok (c ▸ arange_spec nnz)
  · rw [b1]
    exact .ok (choice_isSample h0 c.1 (by omega) okc)
  · rw [b2]
    exact .reverse (choice_isSample (by omega) (by omega) (by omega) okc) h0 h1
  · simp only [b3, Int.reduceEq, if_false, if_true]
    rcases algD_cases (elements - nnz) elements c.1 o.candD okd with ⟨a, o', hD, ha⟩ | hD <;> rw [hD]
    · exact .reverse ha h0 h1
    · exact .hang
  · simp only [b4, Int.reduceEq, if_false, if_true] at okl ⊢
    have okl := okl (Or.inl trivial)
    obtain ⟨a, e0, ha⟩ := algA_ok (elements - nnz) elements c.1 (by omega) o.skipsA o.lastA okl.1 okl.2
    rw [e0]
    exact .reverse ha h0 h1
  · simp only [b5, Int.reduceEq, if_false, if_true]
    rcases algD_cases nnz elements c.1 o.candD okd with ⟨a, o', hD, ha⟩ | hD <;> rw [hD]
    · exact .ok ha
    · exact .hang
  · simp only [b6, Int.reduceEq, if_false] at okl ⊢
    have okl := okl (Or.inr trivial)
    obtain ⟨a, e0, ha⟩ := algA_ok nnz elements c.1 h1 o.skipsA o.lastA okl.1 okl.2
    rw [e0]
    exact .ok ha

theorem unravel_lt : ∀ (s : List Nat) (n m : Nat), n < m → m < prod s → unravel n s < unravel m s
  | [], n, m, h, hm => by simp [prod] at hm; omega
  | d :: ds, n, m, h, hm => by
    simp only [prod] at hm
    have hp : 0 < prod ds := by
      rcases Nat.eq_zero_or_pos (prod ds) with h0 | h0
      · rw [h0, Nat.mul_zero] at hm; omega
      · exact h0
    simp only [unravel]
    apply List.cons_lt_cons_iff.mpr
    have hle : n / prod ds ≤ m / prod ds := Nat.div_le_div_right (Nat.le_of_lt h)
    rcases Nat.lt_or_eq_of_le hle with hlt | heq
    · exact Or.inl hlt
    · right
      refine ⟨heq, unravel_lt ds _ _ ?_ (Nat.mod_lt _ hp)⟩
      have e1 := Nat.div_add_mod n (prod ds)
      have e2 := Nat.div_add_mod m (prod ds)
      rw [heq] at e1
      omega

variable {α : Type}

theorem sortEntries_of_sorted (shape : List Nat) (es : List (Idx × α))
    (h : (es.map fun e => ravel e.1 shape).Pairwise (· < ·)) : sortEntries shape es = es := by
  unfold sortEntries
  apply List.mergeSort_of_pairwise
  rw [List.pairwise_map] at h
  exact List.Pairwise.imp (fun hab => by simp only [decide_eq_true_eq]; omega) h

theorem sumDup_of_sorted [Add α] (shape : List Nat) : ∀ (es : List (Idx × α)),
    (es.map fun e => ravel e.1 shape).Pairwise (· < ·) → sumDup shape es = es
  | [], _ => by simp [sumDup]
  | [e], _ => by simp [sumDup]
  | e1 :: e2 :: rest, h => by
    simp only [List.map_cons, List.pairwise_cons] at h
    have hne : ¬ ravel e1.1 shape = ravel e2.1 shape := by
      have := h.1 (ravel e2.1 shape) (List.mem_cons_self ..); omega
    rw [sumDup]
    simp only [hne, if_false]
    rw [sumDup_of_sorted shape (e2 :: rest) (by simp only [List.map_cons, List.pairwise_cons]; exact h.2)]

theorem ravel_single (n E : Nat) : ravel [n] [E] = n := by simp [ravel, prod]

/-- the flat entry list handed to the constructor -/
def flatEntries (ind : List Int) (data : List α) : List (Idx × α) := (ind.map fun x => [x.toNat]).zip data

theorem flatEntries_keys (ind : List Int) (data : List α) (hl : ind.length = data.length) :
    (flatEntries ind data).map (·.1) = ind.map fun x => [x.toNat] := by
  rw [flatEntries, List.map_fst_zip (by rw [List.length_map, hl]; exact Nat.le_refl _)]

theorem flatEntries_vals (ind : List Int) (data : List α) (hl : ind.length = data.length) :
    (flatEntries ind data).map (·.2) = data := by
  rw [flatEntries, List.map_snd_zip (by rw [List.length_map, hl]; exact Nat.le_refl _)]

theorem flatEntries_ravel (E : Nat) (ind : List Int) (data : List α) (hl : ind.length = data.length) :
    (flatEntries ind data).map (fun e => ravel e.1 [E]) = ind.map Int.toNat := by
  rw [show (fun e : Idx × α => ravel e.1 [E]) = (fun i => ravel i [E]) ∘ (·.1) from rfl, ← List.map_map,
    flatEntries_keys ind data hl, List.map_map]
  exact List.map_congr_left fun x _ => ravel_single x.toNat E

theorem toNat_pairwise (ind : List Int) (hp : ind.Pairwise (· < ·)) (hr : ∀ x ∈ ind, 0 ≤ x) :
    (ind.map Int.toNat).Pairwise (· < ·) := by
  rw [List.pairwise_map]
  refine hp.imp_of_mem fun ha hb hab => ?_
  have := hr _ ha
  omega

theorem canonical_of_sample {x : COO α} {n N : Int} {ind : List Int} (hs : IsSample n N ind) (k : Int → Idx)
    (hk : x.keys = ind.map k) (hin : ∀ v, 0 ≤ v → v < N → InB (k v) x.shape)
    (hlt : ∀ a b, 0 ≤ a → a < b → b < N → k a < k b) : x.Canonical := by
  obtain ⟨_, hp, hr⟩ := hs
  constructor
  · intro e he
    have hm : e.1 ∈ x.keys := List.mem_map_of_mem he
    rw [hk] at hm
    obtain ⟨v, hv, hve⟩ := List.mem_map.mp hm
    exact hve ▸ hin v (hr v hv).1 (hr v hv).2
  · rw [hk, List.pairwise_map]
    exact hp.imp_of_mem fun ha hb hab => hlt _ _ (hr _ ha).1 hab (hr _ hb).2

theorem random_coo [Add α] [DecidableEq α] (shape : List Nat) (nnz : Int) (dge1 : Bool) (o : Oracle)
    (data : List α) (fill : α) (h0 : 0 ≤ nnz) (h1 : nnz ≤ (prod shape : Nat))
    (hd : dge1 = true → nnz = (prod shape : Nat)) (ok : OracleOK nnz (prod shape : Nat) dge1 o)
    (x : COO α) (h : random shape nnz dge1 o data fill = .ok x) :
    x.shape = shape ∧ x.fill = fill ∧ x.nnz = nnz.toNat ∧ x.Canonical ∧ x.vals = data := by
  unfold random at h
  cases hi : randomIdx nnz (prod shape : Nat) dge1 o with
  | error e => rw [hi] at h; cases h
  | ok ind =>
    rw [hi] at h
    simp only at h
    have hs := (random_idx nnz _ dge1 o h0 h1 hd ok).1 ind hi
    split at h
    · cases h
    · rename_i hl
      have hl : ind.length = data.length := by simpa using hl
      simp only [Except.ok.injEq] at h
      -- the constructor's sort and duplicate summation leave the strictly increasing flat list as it is
      have hsorted : ((flatEntries ind data).map fun e => ravel e.1 [prod shape]).Pairwise (· < ·) := by
        rw [flatEntries_ravel (prod shape) ind data hl]
        exact toNat_pairwise ind hs.2.1 (fun x hx => (hs.2.2 x hx).1)
      have hbuild : COO.build [prod shape] (flatEntries ind data) fill
          = { shape := [prod shape], entries := flatEntries ind data, fill := fill } := by
        simp only [COO.build, Bool.false_eq_true, if_false, if_true]
        rw [sortEntries_of_sorted _ _ hsorted, sumDup_of_sorted _ _ hsorted]
      have hkeys := flatEntries_keys ind data hl
      have hvals := flatEntries_vals ind data hl
      have hlen : (flatEntries ind data).length = nnz.toNat := by
        rw [← hs.1, ← List.length_map (·.1), hkeys, List.length_map]
      change (COO.build [prod shape] (flatEntries ind data) fill).reshapeCore shape = x at h
      rw [hbuild] at h
      unfold reshapeCore at h
      simp only at h
      split at h
      · rename_i hshape
        subst h
        refine ⟨hshape, rfl, hlen, canonical_of_sample hs _ hkeys (fun v _ _ => ⟨by omega, trivial⟩) ?_, hvals⟩
        exact fun a b _ _ _ => List.cons_lt_cons_iff.mpr (Or.inl (by omega))
      · subst h
        have hk2 : (mapIdx (fun i => unravel (ravel i [prod shape]) shape) (flatEntries ind data)).map (·.1)
            = ind.map fun v => unravel v.toNat shape := by
          simp only [mapIdx, List.map_map]
          have : ((fun e : Idx × α => e.1) ∘ fun e : Idx × α => (unravel (ravel e.1 [prod shape]) shape, e.2))
              = (fun i => unravel (ravel i [prod shape]) shape) ∘ (·.1) := rfl
          rw [this, ← List.map_map, hkeys, List.map_map]
          apply List.map_congr_left
          intro v _
          simp [ravel_single]
        refine ⟨rfl, rfl, by simp [COO.nnz, mapIdx, hlen], canonical_of_sample hs _ hk2 ?_ ?_,
          by simp [COO.vals, mapIdx, List.map_map, Function.comp_def, hvals]⟩
        · exact fun v _ _ => unravel_InB shape _ (by omega)
        · exact fun a b _ _ _ => unravel_lt shape _ _ (by omega) (by omega)

end Create
end SparseV
