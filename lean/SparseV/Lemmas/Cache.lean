/-
  SparseV.Lemmas.Cache — behind the C11 theorems (Props/C11.lean): the invariant `cache_inv` of the cache state
  machine with its one-step and n-step specifications, and the one-step frame facts of the buffer model.
-/
import SparseV.Model.Cache
import SparseV.Model.Buffer
namespace SparseV

/-- a keyed search (the `for k', v in …: if k' == k` loop of the deques, the `dict` lookup of the
memo) returns the value of an entry stored under that key -/
theorem mem_of_find_key {K V : Type} [BEq K] [LawfulBEq K] {l : List (K × V)} {k : K} {v : V}
    (h : (l.find? (fun e => e.1 == k)).map (·.2) = some v) : (k, v) ∈ l := by
  obtain ⟨e, hf, rfl⟩ := Option.map_eq_some_iff.mp h
  have hk := List.find?_some hf
  cases eq_of_beq hk
  exact List.mem_of_find?_eq_some hf

/-- `deque.append` only evicts -/
theorem Cache.forall_mem_append {Val : Type} {P : Cache.Key × Val → Prop} {c : Cache.Cache Val}
    {k : Cache.Key} {v : Val} (hc : ∀ e ∈ c, P e) (hkv : P (k, v)) : ∀ e ∈ Cache.append c k v, P e := by
  intro e he
  have : e ∈ c ++ [(k, v)] := by
    unfold Cache.append at he
    split at he
    · exact List.mem_append.mpr ((List.mem_append.mp he).imp_left List.mem_of_mem_drop)
    · exact he
  rcases List.mem_append.mp this with h | h
  · exact hc e h
  · exact List.mem_singleton.mp h ▸ hkv

end SparseV

namespace SparseV.C11
open SparseV SparseV.Cache

variable {Val : Type}

/-- `deque(maxlen=3)` -/
theorem append_length_le (c : Cache Val) (k : Key) (v : Val) : (append c k v).length ≤ capacity := by
  unfold append capacity
  split
  · simp only [List.length_append, List.length_drop, List.length_cons, List.length_nil]; omega
  · simp only [List.length_append, List.length_cons, List.length_nil]; omega

def DequeInv (o : Ops Val) (c : Cache Val) : Prop := ∀ e ∈ c, o.compute e.1 = .ok e.2

/-- **cache_inv.** Everything the cache holds is what the uncached computation returns for that key. -/
def cache_inv (o : Ops Val) (s : State Val) : Prop :=
  DequeInv o s.tr ∧ DequeInv o s.rs ∧
  (∀ v, s.csr = some v → o.compute .csr = .ok v) ∧
  (∀ v, s.csc = some v → ∃ r, s.csr = some r ∧ v = o.csrToCsc r)

theorem viaDeque_spec (o : Ops Val) (c : Cache Val) (k : Key) (h : DequeInv o c) :
    DequeInv o (viaDeque o c k).1 ∧ (viaDeque o c k).2 = o.compute k := by
  unfold viaDeque
  cases hl : lookup c k with
  | some v => exact ⟨h, (h _ (mem_of_find_key hl)).symm⟩
  | none =>
    cases hc : o.compute k with
    | error e => exact ⟨h, rfl⟩
    | ok v => exact ⟨forall_mem_append h hc, rfl⟩

theorem viaDeque_length (o : Ops Val) (c : Cache Val) (k : Key) (h : c.length ≤ capacity) :
    (viaDeque o c k).1.length ≤ capacity := by
  unfold viaDeque
  cases lookup c k with
  | some v => exact h
  | none =>
    cases o.compute k with
    | error e => exact h
    | ok v => exact append_length_le c k v

theorem step_spec (o : Ops Val) (s : State Val) (c : Call) (h : cache_inv o s) :
    cache_inv o (step o s c).1 ∧ (step o s c).2 = uncached o c := by
  obtain ⟨tr, rs, csr, csc⟩ := s
  obtain ⟨htr, hrs, hcsr, hcsc⟩ := h
  cases c with
  | transpose axes =>
    simp only [step, uncached]
    split
    · exact ⟨⟨htr, hrs, hcsr, hcsc⟩, rfl⟩
    · have := viaDeque_spec o tr (.transpose axes) htr
      exact ⟨⟨this.1, hrs, hcsr, hcsc⟩, this.2⟩
  | reshape sh lit =>
    simp only [step, uncached]
    split
    · exact ⟨⟨htr, hrs, hcsr, hcsc⟩, rfl⟩
    · have := viaDeque_spec o rs (.reshape sh) hrs
      exact ⟨⟨htr, this.1, hcsr, hcsc⟩, this.2⟩
  | csr =>
    cases csr with
    | some v => exact ⟨⟨htr, hrs, hcsr, hcsc⟩, (hcsr v rfl).symm⟩
    | none =>
      cases csc with
      | some c =>
        -- a `_csc` memo without a `_csr` memo does not occur
        obtain ⟨r, hr, _⟩ := hcsc c rfl
        cases hr
      | none =>
        simp only [step, uncached]
        cases h3 : o.compute .csr with
        | error e => exact ⟨⟨htr, hrs, hcsr, hcsc⟩, rfl⟩
        | ok v =>
          refine ⟨⟨htr, hrs, ?_, nofun⟩, rfl⟩
          rintro _ ⟨⟩; exact h3
  | csc =>
    cases csc with
    | some v =>
      obtain ⟨r, hr, rfl⟩ := hcsc v rfl
      refine ⟨⟨htr, hrs, hcsr, hcsc⟩, ?_⟩
      simp only [step, uncached]
      rw [hcsr r hr]; rfl
    | none =>
      cases csr with
      | some r =>
        refine ⟨⟨htr, hrs, hcsr, ?_⟩, ?_⟩
        · rintro _ ⟨⟩; exact ⟨r, rfl, rfl⟩
        · simp only [step, uncached]
          rw [hcsr r rfl]; rfl
      | none =>
        simp only [step, uncached]
        cases h3 : o.compute .csr with
        | error e => exact ⟨⟨htr, hrs, hcsr, hcsc⟩, rfl⟩
        | ok r =>
          refine ⟨⟨htr, hrs, ?_, ?_⟩, rfl⟩
          · rintro _ ⟨⟩; exact h3
          · rintro _ ⟨⟩; exact ⟨r, rfl, rfl⟩

theorem run_spec (o : Ops Val) (calls : List Call) :
    ∀ s, cache_inv o s → cache_inv o (run o s calls).1 ∧ (run o s calls).2 = calls.map (uncached o) := by
  induction calls with
  | nil => intro s h; exact ⟨h, rfl⟩
  | cons c cs ih =>
    intro s h
    have h1 := step_spec o s c h
    have h2 := ih _ h1.1
    exact ⟨h2.1, by rw [List.map_cons, ← h1.2, ← h2.2]; rfl⟩

theorem step_length (o : Ops Val) (s : State Val) (c : Call) (h1 : s.tr.length ≤ capacity)
    (h2 : s.rs.length ≤ capacity) :
    (step o s c).1.tr.length ≤ capacity ∧ (step o s c).1.rs.length ≤ capacity := by
  cases c with
  | transpose axes =>
    simp only [step]
    split
    · exact ⟨h1, h2⟩
    · exact ⟨viaDeque_length o _ _ h1, h2⟩
  | reshape sh lit =>
    simp only [step]
    split
    · exact ⟨h1, h2⟩
    · exact ⟨h1, viaDeque_length o _ _ h2⟩
  | csr =>
    -- `tocsr`/`tocsc` touch the memo attributes only
    simp only [step]
    repeat' split
    all_goals exact ⟨h1, h2⟩
  | csc =>
    simp only [step]
    repeat' split
    all_goals exact ⟨h1, h2⟩

open SparseV.Buffer

theorem exec1_tags (w : Nat → Content → Content) (k : Nat) (h : Heap) (s : Step) :
    (exec1 w k h s).env.map Loc.isNew = tag1 (h.env.map Loc.isNew) s := by
  cases s with
  | alloc => simp only [exec1, tag1, List.map_append, List.map_cons, List.map_nil, Loc.isNew]
  | copyOf x =>
    simp only [exec1, tag1, List.length_map]
    cases hx : h.env[x]? with
    | some l =>
      rw [if_pos (List.getElem?_eq_some_iff.mp hx).1]
      simp only [List.map_append, List.map_cons, List.map_nil, Loc.isNew]
    | none => rw [if_neg (Nat.not_lt.mpr (List.getElem?_eq_none_iff.mp hx))]
  | viewOf x =>
    simp only [exec1, tag1, List.getElem?_map]
    cases h.env[x]? with
    | some l => simp only [Option.map_some, List.map_append, List.map_cons, List.map_nil]
    | none => rfl
  | writeInPlace d =>
    simp only [exec1, tag1]
    split <;> rfl

theorem exec1_old (w : Nat → Content → Content) (k : Nat) (h : Heap) (s : Step)
    (hs : (match s with | .writeInPlace d => (h.env.map Loc.isNew)[d]? == some true | _ => true) = true) :
    (exec1 w k h s).old = h.old := by
  cases s with
  | alloc => rfl
  | copyOf x => simp only [exec1]; split <;> rfl
  | viewOf x => simp only [exec1]; split <;> rfl
  | writeInPlace d =>
    simp only [exec1]
    split
    next b hd => simp [hd, Loc.isNew] at hs
    · rfl
    · rfl

theorem exec_tags (w : Nat → Content → Content) (p : List Step) :
    ∀ (k : Nat) (h : Heap), (exec w k h p).env.map Loc.isNew = p.foldl tag1 (h.env.map Loc.isNew) := by
  induction p with
  | nil => intro k h; rfl
  | cons s ss ih =>
    intro k h
    simp only [exec, List.foldl_cons]
    rw [ih, exec1_tags]

theorem origin1_tags (o : List (Option Nat)) (s : Step) :
    (origin1 o s).map Option.isNone = tag1 (o.map Option.isNone) s := by
  cases s with
  | alloc => simp only [origin1, tag1, List.map_append, List.map_cons, List.map_nil, Option.isNone_none]
  | copyOf x =>
    simp only [origin1, tag1, List.length_map]
    split
    · simp only [List.map_append, List.map_cons, List.map_nil, Option.isNone_none]
    · rfl
  | viewOf x =>
    simp only [origin1, tag1, List.getElem?_map]
    cases o[x]? with
    | some t => simp only [Option.map_some, List.map_append, List.map_cons, List.map_nil]
    | none => rfl
  | writeInPlace d => rfl

/-- the alias map and the tag analysis are the same analysis, the one remembering which operand a
name may share storage with, the other only whether it shares with any -/
theorem origins_tags (n : Nat) (p : List Step) :
    (origins n p).map Option.isNone = p.foldl tag1 (List.replicate n false) := by
  have h0 : ((List.range n).map some).map Option.isNone = List.replicate n false :=
    (List.map_map ..).trans ((List.map_const' ..).trans (by rw [List.length_range]))
  unfold origins
  rw [← h0]
  generalize (List.range n).map some = o
  induction p generalizing o with
  | nil => rfl
  | cons s ss ih => simp only [List.foldl_cons]; rw [ih, origin1_tags]

end SparseV.C11
