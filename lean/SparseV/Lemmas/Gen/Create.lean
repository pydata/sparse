/-
  INTERFACE lemmas for the definitions generated from `_common.eye` (`Gen.eyeLen`, `Gen.eyeCoord`) and from the
  sampler selection of `_utils.random` (`Gen.randomBranch`), tie T1: the only place where these definitions are
  unfolded; proved by `unfold …; grind`, which does not look at the shape of the generated term (DESIGN.md §2.3).
-/
import SparseV.Generated.Common
import SparseV.Generated.Utils
namespace SparseV

/-- number of ones of `eye(N, M, k)`: `M = None` means `N`; the `k`-th diagonal of an `N × M` matrix -/
def Ref.eyeLen (N : Int) (M : Option Int) (k : Int) : Int :=
  if k > 0 then max (min (min N (M.getD N)) (M.getD N - k)) 0
  else if k < 0 then max (min (min N (M.getD N)) (N + k)) 0
  else min N (M.getD N)

/-- (row, column, 0) of the `t`-th one of the `k`-th diagonal -/
def Ref.eyeCoord (t k : Int) : Int × Int × Int := (if k < 0 then t - k else t, if k > 0 then t + k else t, 0)

theorem Gen.eyeLen_eq (N : Int) (M : Option Int) (k : Int) : Gen.eyeLen N M k = Ref.eyeLen N M k := by
  unfold Gen.eyeLen Ref.eyeLen
  cases M <;> grind

theorem Gen.eyeCoord_eq (t k : Int) : Gen.eyeCoord t k = Ref.eyeCoord t k := by
  unfold Gen.eyeCoord Ref.eyeCoord
  grind

/-- the seven leaves of the generated selection and what holds at each: only what the samplers need
(`choice` with size 0 or 1, algD with `1 ≤ n < N`, algA with `1 ≤ n ≤ N`) — the `10 *` thresholds between
algA and algD are performance choices and are not part of the statement.  Every leaf is visited, whatever tests lead to it: the
tuple identifies the disjunct, the path conditions give the rest. -/
theorem Gen.randomBranch_cases (nnz elements : Int) (dge1 : Bool) (_h0 : 0 ≤ nnz) (h1 : nnz ≤ elements)
    (hd : dge1 = true → nnz = elements) :
    (Gen.randomBranch nnz elements dge1 = (0, nnz, elements) ∧ nnz = elements) ∨
    (Gen.randomBranch nnz elements dge1 = (1, nnz, elements) ∧ nnz < 2 ∧ nnz < elements) ∨
    (Gen.randomBranch nnz elements dge1 = (2, elements - nnz, elements) ∧ 2 ≤ nnz ∧ elements - nnz = 1) ∨
    (Gen.randomBranch nnz elements dge1 = (3, elements - nnz, elements) ∧ 1 ≤ elements - nnz ∧ 1 ≤ nnz) ∨
    (Gen.randomBranch nnz elements dge1 = (4, elements - nnz, elements) ∧ 1 ≤ elements - nnz ∧ 0 ≤ nnz) ∨
    (Gen.randomBranch nnz elements dge1 = (5, nnz, elements) ∧ 1 ≤ nnz ∧ 1 ≤ elements - nnz) ∨
    (Gen.randomBranch nnz elements dge1 = (6, nnz, elements) ∧ 1 ≤ nnz ∧ 0 ≤ elements - nnz) := by
  unfold Gen.randomBranch
  grind

end SparseV
