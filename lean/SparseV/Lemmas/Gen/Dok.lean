/-
  INTERFACE lemma for `Gen.dokSliceBounds`, the slice-bound computation inside `DOK._setitem` (tie T1): the only
  place where that definition is unfolded; proved by `unfold …; grind`, which does not look at the shape of
  the generated term (DESIGN.md §2.3).
-/
import SparseV.Generated.Dok
namespace SparseV
namespace Dok

/-- `DOK._setitem`'s slice bounds written by hand (both branches read a missing part as `None`, never by
truthiness): the reference the generated `Gen.dokSliceBounds` is compared with (`gen_is_fixed`).  Until
/repo commit 5f937a6 the negative-step branch read `ind.start or self.shape[i] - 1`, which took a start
of 0 for missing. -/
def dokSliceBoundsFixed (istart istop istep : Option Int) (dim : Int) : Int × Int × Int :=
  let step : Int := (match istep with | none => 1 | some s => s)
  if step > 0 then
    let start : Int := max (match istart with | none => 0 | some s => s) 0
    let stop : Int := min (match istop with | none => dim | some s => s) dim
    if start > stop then (stop, stop, step) else (start, stop, step)
  else
    let start : Int := min (match istart with | none => dim - 1 | some s => s) (dim - 1)
    let stop : Int := max (match istop with | none => -1 | some s => s) (-1)
    if start < stop then (stop, stop, step) else (start, stop, step)

end Dok

theorem Gen.dokSliceBounds_eq (istart istop istep : Option Int) (dim : Int) :
    Gen.dokSliceBounds istart istop istep dim = Dok.dokSliceBoundsFixed istart istop istep dim := by
  unfold Gen.dokSliceBounds Dok.dokSliceBoundsFixed
  -- the `Option`s first: with them still in the goal `grind` runs out of case splits on spellings with nested `min`/`max`
  cases istart <;> cases istop <;> cases istep <;> grind

end SparseV
