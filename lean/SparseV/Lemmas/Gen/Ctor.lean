/-
  INTERFACE lemmas for the constructor checks translated from `SparseArray.__init__` (`Gen.shapeEltOk`),
  `COO.__init__` (`Gen.cooCtorChecks`) and `GCXS.__init__` (`Gen.gcxsShapeEltOk`, `Gen.gcxsCtorChecksHead`,
  `Gen.gcxsCtorChecks`), tie T1 (tools/targets.d/C14.py): the only place where these definitions are unfolded.
  A change of a check that changes what is accepted makes the lemma about it fail; one that does not, does not:
  every lemma is proved by `unfold …; grind`, which does not look at the shape of the generated term (DESIGN.md §2.3).
-/
import SparseV.Generated.Compressed
import SparseV.Generated.CooCore
import SparseV.Generated.SparseArray
namespace SparseV
namespace Npz

/-- one extent passes iff it is non-negative (members of an integer array are Integral) -/
theorem shapeEltOk_iff (e : Int) : Gen.shapeEltOk e = true ↔ 0 ≤ e := by
  unfold Gen.shapeEltOk
  grind

theorem gcxsShapeEltOk_iff (e : Int) : Gen.gcxsShapeEltOk e = true ↔ 0 ≤ e := by
  unfold Gen.gcxsShapeEltOk
  grind

theorem all_shapeEltOk_iff (s : List Int) : s.all Gen.shapeEltOk = true ↔ ∀ e ∈ s, 0 ≤ e := by
  simp only [List.all_eq_true, shapeEltOk_iff]

theorem all_gcxsShapeEltOk_iff (s : List Int) : s.all Gen.gcxsShapeEltOk = true ↔ ∀ e ∈ s, 0 ≤ e := by
  simp only [List.all_eq_true, gcxsShapeEltOk_iff]

/-- `COO.__init__`: the checks pass iff there is one value per coordinate column and one coordinate row per
dimension; every failure is a ValueError -/
theorem cooCtorChecks_ok_iff (nd nc dim nr : Int) : Gen.cooCtorChecks 2 nd nc dim nr = .ok () ↔ nd = nc ∧ dim = nr := by
  unfold Gen.cooCtorChecks
  grind

theorem cooCtorChecks_cases (a nd nc dim nr : Int) :
    Gen.cooCtorChecks a nd nc dim nr = .ok () ∨ Gen.cooCtorChecks a nd nc dim nr = .error .value := by
  unfold Gen.cooCtorChecks
  grind

/-- `GCXS.__init__`: the checks pass iff every extent is a non-negative integer, there is one value per index
(one dimension and up), — two dimensions and up — `indptr` has `rows + 1` entries, the first 0 and the last
`len(indices)`, it does not decrease, and — when there are indices — the least and greatest index lie in
`[0, cols)` (two dimensions and up) resp. `[0, shape[0])` (one dimension) -/
theorem gcxsCtorChecks_ok_iff (shapeOk dec : Bool) (ndim sh0 nd ni np rows cols p0 pl imin imax : Int) :
    Gen.gcxsCtorChecks 1 shapeOk ndim sh0 nd ni np rows cols p0 pl dec 1 imin imax = .ok () ↔
      shapeOk = true ∧ (1 ≤ ndim → nd = ni)
      ∧ (2 ≤ ndim → np = rows + 1 ∧ p0 = 0 ∧ pl = ni ∧ dec = false ∧ (ni ≠ 0 → 0 ≤ imin ∧ imax < cols))
      ∧ (ndim = 1 → ni ≠ 0 → 0 ≤ imin ∧ imax < sh0) := by
  unfold Gen.gcxsCtorChecks
  grind

theorem gcxsCtorChecks_cases (a b : Int) (shapeOk dec : Bool) (ndim sh0 nd ni np rows cols p0 pl imin imax : Int) :
    Gen.gcxsCtorChecks a shapeOk ndim sh0 nd ni np rows cols p0 pl dec b imin imax = .ok ()
      ∨ Gen.gcxsCtorChecks a shapeOk ndim sh0 nd ni np rows cols p0 pl dec b imin imax = .error .value := by
  unfold Gen.gcxsCtorChecks
  grind

theorem gcxsCtorChecks_ok_nondecreasing (a b : Int) (shapeOk dec : Bool) (ndim sh0 nd ni np rows cols p0 pl imin imax : Int)
    (h2 : 2 ≤ ndim)
    (h : Gen.gcxsCtorChecks a shapeOk ndim sh0 nd ni np rows cols p0 pl dec b imin imax = .ok ()) : dec = false := by
  revert h
  unfold Gen.gcxsCtorChecks
  grind

theorem gcxsCtorChecksHead_ok_iff (shapeOk : Bool) (ndim nd ni : Int) :
    Gen.gcxsCtorChecksHead 1 shapeOk ndim nd ni = .ok () ↔ shapeOk = true ∧ (1 ≤ ndim → nd = ni) := by
  unfold Gen.gcxsCtorChecksHead
  grind

theorem gcxsCtorChecksHead_cases (a : Int) (shapeOk : Bool) (ndim nd ni : Int) :
    Gen.gcxsCtorChecksHead a shapeOk ndim nd ni = .ok () ∨ Gen.gcxsCtorChecksHead a shapeOk ndim nd ni = .error .value := by
  unfold Gen.gcxsCtorChecksHead
  grind

end Npz
end SparseV
