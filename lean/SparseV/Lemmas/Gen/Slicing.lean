/-
  INTERFACE lemmas for the definitions generated from `_slicing.py` (tie T1): each states that the generated
  definition computes the hand-written reference below, for ALL arguments.  The only place where these
  definitions are unfolded; each lemma is proved by `unfold …; grind`, which does not look at the shape of
  the generated term (DESIGN.md §2.3).
-/
import SparseV.Model.Slice
namespace SparseV

namespace Ref

/-- `replace_none`: `None` parts of a slice replaced by the defaults of the step's direction (`step = None` is 1) -/
def replaceNone (start stop step : Option Int) (dim : Int) : Int × Int × Int :=
  if 0 < step.getD 1 then (start.getD 0, stop.getD dim, step.getD 1)
  else (start.getD (dim - 1), stop.getD (-dim - 1), step.getD 1)

/-- `posify_index` on a slice without `None`: a negative bound counts from the end -/
def posifySlice (shape start stop step : Int) : Int × Int × Int :=
  (if start < 0 then start + shape else start, if stop < 0 then stop + shape else stop, step)

/-- `posify_index` on an integer -/
def posifyInt (shape ind : Int) : Int := if ind < 0 then ind + shape else ind

/-- `clip_slice`: both bounds clipped to the axis, then `start` clamped to `stop` in the step's direction -/
def clipSlice (start stop step dim : Int) : Int × Int × Int :=
  if 0 < step then (min (max start 0) (min stop dim), min stop dim, step)
  else (max (min start (dim - 1)) (max stop (-1)), max stop (-1), step)

/-- `check_index` on an integer: `IndexError` outside `[-dim, dim)` -/
def checkIndexInt (ind dim : Int) : Except Err Unit :=
  if -dim ≤ ind ∧ ind < dim then .ok () else .error Err.index

end Ref

theorem Gen.replaceNone_eq (start stop step : Option Int) (dim : Int) :
    Gen.replaceNone start stop step dim = Ref.replaceNone start stop step dim := by
  unfold Gen.replaceNone Ref.replaceNone
  cases start <;> cases stop <;> cases step <;> grind

theorem Gen.posifySlice_eq (shape start stop step : Int) :
    Gen.posifySlice shape start stop step = Ref.posifySlice shape start stop step := by
  unfold Gen.posifySlice Ref.posifySlice
  grind

theorem Gen.posifyInt_eq (shape ind : Int) : Gen.posifyInt shape ind = Ref.posifyInt shape ind := by
  unfold Gen.posifyInt Ref.posifyInt
  grind

theorem Gen.clipSlice_eq (start stop step dim : Int) :
    Gen.clipSlice start stop step dim = Ref.clipSlice start stop step dim := by
  unfold Gen.clipSlice Ref.clipSlice
  grind

theorem Gen.checkIndexInt_eq (ind dim : Int) : Gen.checkIndexInt ind dim = Ref.checkIndexInt ind dim := by
  unfold Gen.checkIndexInt Ref.checkIndexInt
  grind

/-- `replace_none` → `posify_index` → `clip_slice` on one slice entry -/
def Ref.normalizeSlice (start stop step : Option Int) (dim : Int) : Int × Int × Int :=
  let r := Ref.replaceNone start stop step dim
  let p := Ref.posifySlice dim r.1 r.2.1 r.2.2
  Ref.clipSlice p.1 p.2.1 p.2.2 dim

theorem normalizeSlice_eq (start stop step : Option Int) (dim : Int) :
    normalizeSlice start stop step dim = Ref.normalizeSlice start stop step dim := by
  simp only [normalizeSlice, Ref.normalizeSlice, Gen.replaceNone_eq, Gen.posifySlice_eq, Gen.clipSlice_eq]

/-- `check_index` then `posify_index` on one integer entry -/
theorem normalizeInt_eq (ind dim : Int) :
    normalizeInt ind dim = (if -dim ≤ ind ∧ ind < dim then .ok (if ind < 0 then ind + dim else ind) else .error Err.index) := by
  simp only [normalizeInt, Gen.checkIndexInt_eq, Gen.posifyInt_eq, Ref.checkIndexInt, Ref.posifyInt]
  by_cases h : -dim ≤ ind ∧ ind < dim
  · rw [if_pos h, if_pos h]
  · rw [if_neg h, if_neg h]

theorem Ref.clipSlice_step (a b s d : Int) : (Ref.clipSlice a b s d).2.2 = s := by
  unfold Ref.clipSlice; split <;> rfl

theorem Ref.replaceNone_step (a b c : Option Int) (d : Int) : (Ref.replaceNone a b c d).2.2 = c.getD 1 := by
  unfold Ref.replaceNone; split <;> rfl

theorem Ref.normalizeSlice_step (a b c : Option Int) (d : Int) : (Ref.normalizeSlice a b c d).2.2 = c.getD 1 := by
  simp only [Ref.normalizeSlice, Ref.clipSlice_step, Ref.posifySlice, Ref.replaceNone_step]

end SparseV
