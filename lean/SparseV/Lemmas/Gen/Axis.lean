/-
  INTERFACE lemma for `Gen.normalizeAxisInt` (the integer branch of `_utils.normalize_axis`, tie T1): the only
  place where that definition is unfolded; proved by `unfold …; grind`, which does not look at the shape of
  the generated term (DESIGN.md §2.3).
-/
import SparseV.Generated.Utils
namespace SparseV

/-- NumPy's rule: an axis number is accepted iff `-ndim ≤ axis < ndim` and then counts from the end when negative;
otherwise `ValueError` (NumPy's AxisError is one) -/
def Ref.normalizeAxisInt (axis ndim : Int) : Except Err Int :=
  if -ndim ≤ axis ∧ axis < ndim then .ok (if axis < 0 then axis + ndim else axis) else .error Err.value

theorem Gen.normalizeAxisInt_eq (axis ndim : Int) : Gen.normalizeAxisInt axis ndim = Ref.normalizeAxisInt axis ndim := by
  unfold Gen.normalizeAxisInt Ref.normalizeAxisInt
  grind

end SparseV
