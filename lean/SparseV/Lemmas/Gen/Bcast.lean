/-
  INTERFACE lemmas for `Gen.bcastOk` / `Gen.bcastDim`, the per-pair broadcasting rule inside
  `_umath._get_broadcast_shape` (tie T1): the only place where the two definitions are unfolded; proved by
  `unfold …; grind`, which does not look at the shape of the generated term (DESIGN.md §2.3).
-/
import SparseV.Generated.Umath
namespace SparseV

/-- admissibility of one right-aligned pair of extents: equal, or the first is 1, or — unless the second shape is the
result shape, which may not be stretched — the second is 1 -/
def Ref.bcastOk (l1 l2 : Int) (isResult : Bool) : Bool :=
  decide (l1 = l2 ∨ l1 = 1 ∨ (l2 = 1 ∧ isResult = false))

def Ref.bcastDim (l1 l2 : Int) : Int := if l1 = 1 then l2 else l1

theorem Gen.bcastOk_eq (l1 l2 : Int) (isResult : Bool) : Gen.bcastOk l1 l2 isResult = Ref.bcastOk l1 l2 isResult := by
  unfold Gen.bcastOk Ref.bcastOk
  grind

theorem Gen.bcastDim_eq (l1 l2 : Int) : Gen.bcastDim l1 l2 = Ref.bcastDim l1 l2 := by
  unfold Gen.bcastDim Ref.bcastDim
  grind

theorem Gen.bcastOk_iff (l1 l2 : Int) (isResult : Bool) :
    Gen.bcastOk l1 l2 isResult = true ↔ (l1 = l2 ∨ l1 = 1 ∨ (l2 = 1 ∧ isResult = false)) := by
  rw [Gen.bcastOk_eq, Ref.bcastOk, decide_eq_true_eq]

end SparseV
