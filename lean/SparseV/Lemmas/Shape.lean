/-
  SparseV.Lemmas.Shape — index lemmas for the COO shape operations: axis permutations
  (`gather` / `invPerm`), `flipIdx`, `rollIdx`, `dropAxes` (squeeze) and `insertAt` (expand_dims).
  Each block proves: the coordinate map keeps indices in bounds and has the stated inverse.
-/
import SparseV.Model.Coo
import SparseV.Model.Gcxs
import SparseV.Lemmas.Index
namespace SparseV
open COO

theorem InB_iff_getD {i : Idx} {s : List Nat} :
    InB i s ↔ i.length = s.length ∧ ∀ k, k < i.length → i.getD k 0 < s.getD k 0 := by
  induction i generalizing s with
  | nil =>
    cases s with
    | nil => simp
    | cons => simp
  | cons c i ih =>
    cases s with
    | nil => simp
    | cons d s =>
      simp only [InB_cons, ih, List.length_cons, Nat.add_right_cancel_iff,
        Nat.forall_lt_succ_left, List.getD_cons_zero, List.getD_cons_succ, and_left_comm]

theorem InB_getD_lt {i : Idx} {s : List Nat} (h : InB i s) {a : Nat} (ha : a < s.length) :
    i.getD a 0 < s.getD a 0 := (InB_iff_getD.mp h).2 a (InB_length h ▸ ha)

theorem perm_range_facts {axes : List Nat} {n : Nat} (hp : axes.Perm (List.range n)) :
    axes.length = n ∧ axes.Nodup ∧ ∀ a, a ∈ axes ↔ a < n := by
  refine ⟨by simpa using hp.length_eq, hp.nodup_iff.mpr List.nodup_range, fun a => ?_⟩
  rw [hp.mem_iff, List.mem_range]

@[simp] theorem length_gather (i axes : List Nat) : (gather i axes).length = axes.length := by
  simp [gather]

@[simp] theorem length_invPerm (p : List Nat) : (invPerm p).length = p.length := by
  simp [invPerm]

theorem getElem_gather (i axes : List Nat) {k : Nat} (h : k < (gather i axes).length) :
    (gather i axes)[k] = i.getD (axes[k]'(by simpa using h)) 0 := by
  simp [gather]

theorem getElem_invPerm (p : List Nat) {k : Nat} (h : k < (invPerm p).length) :
    (invPerm p)[k] = p.idxOf k := by
  simp [invPerm]

theorem gather_range_self (i : List Nat) : gather i (List.range i.length) = i := by
  apply List.ext_getElem
  · simp
  · intro k h1 h2
    rw [getElem_gather]
    simp only [List.getElem_range]
    exact getD_eq_getElem i h2

theorem gather_range (i : List Nat) (n : Nat) (h : i.length = n) : gather i (List.range n) = i := by
  subst h; exact gather_range_self i

/-- `i[axes][argsort axes] = i` -/
theorem gather_gather_invPerm {axes : List Nat} {n : Nat} (hp : axes.Perm (List.range n))
    {i : List Nat} (hi : i.length = n) : gather (gather i axes) (invPerm axes) = i := by
  obtain ⟨hlen, _, hmem⟩ := perm_range_facts hp
  apply List.ext_getElem
  · simp [hlen, hi]
  · intro k h1 h2
    have hk : k ∈ axes := (hmem k).mpr (hi ▸ h2)
    have hidx : axes.idxOf k < axes.length := List.idxOf_lt_length_of_mem hk
    rw [getElem_gather, getElem_invPerm, getD_eq_getElem _ (by simpa using hidx), getElem_gather]
    simp only [List.getElem_idxOf hidx]
    exact getD_eq_getElem i h2

/-- `j[argsort axes][axes] = j` -/
theorem gather_invPerm_gather {axes : List Nat} {n : Nat} (hp : axes.Perm (List.range n))
    {j : List Nat} (hj : j.length = n) : gather (gather j (invPerm axes)) axes = j := by
  obtain ⟨hlen, hnd, hmem⟩ := perm_range_facts hp
  apply List.ext_getElem
  · simp [hlen, hj]
  · intro k h1 h2
    have hk : k < axes.length := by simpa using h1
    have hak : axes[k] < n := (hmem _).mp (List.getElem_mem hk)
    rw [getElem_gather, getD_eq_getElem _ (by simpa [hlen] using hak), getElem_gather, getElem_invPerm]
    rw [hnd.idxOf_getElem k hk]
    exact getD_eq_getElem j h2

theorem InB_gather {i s axes : List Nat} (h : InB i s) (hax : ∀ a ∈ axes, a < s.length) :
    InB (gather i axes) (gather s axes) := by
  rw [InB_iff_getD] at h ⊢
  refine ⟨by simp, fun k hk => ?_⟩
  have hk' : k < axes.length := by simpa using hk
  rw [getD_eq_getElem _ hk, getD_eq_getElem _ (by simpa using hk'), getElem_gather, getElem_gather]
  exact h.2 _ (h.1 ▸ hax _ (List.getElem_mem hk'))

theorem invPerm_lt {axes : List Nat} {n : Nat} (hp : axes.Perm (List.range n)) :
    ∀ b ∈ invPerm axes, b < axes.length := by
  obtain ⟨hlen, _, hmem⟩ := perm_range_facts hp
  intro b hb
  obtain ⟨k, hk, rfl⟩ := List.mem_iff_getElem.mp hb
  rw [getElem_invPerm]
  exact List.idxOf_lt_length_of_mem ((hmem k).mpr (by simpa [hlen] using hk))

theorem InB_gather_invPerm {axes s j : List Nat} (hp : axes.Perm (List.range s.length))
    (hj : InB j (gather s axes)) : InB (gather j (invPerm axes)) s := by
  have h := InB_gather (axes := invPerm axes) hj (by simpa using invPerm_lt hp)
  rwa [gather_gather_invPerm hp rfl] at h

/-- the validation `transpose` performs on `axes` -/
theorem perm_range_iff {axes : List Nat} {n : Nat} :
    axes.Perm (List.range n) ↔ axes.Nodup ∧ (∀ a ∈ axes, a < n) ∧ axes.length = n := by
  constructor
  · intro hp
    obtain ⟨h1, h2, h3⟩ := perm_range_facts hp
    exact ⟨h2, fun a ha => (h3 a).mp ha, h1⟩
  · rintro ⟨hnd, hlt, hlen⟩
    refine (List.perm_ext_iff_of_nodup hnd List.nodup_range).mpr fun a =>
      ⟨fun ha => List.mem_range.mpr (hlt a ha), fun ha => Decidable.byContradiction fun hna => ?_⟩
    -- pigeonhole: with `a` missing, `a :: axes` would be `n + 1` distinct numbers below `n`
    have := (List.nodup_cons.mpr ⟨hna, hnd⟩).length_le_of_subset (l₂ := List.range n) fun b hb =>
      (List.mem_cons.mp hb).elim (fun h => h ▸ ha) fun h => List.mem_range.mpr (hlt b h)
    rw [List.length_cons, List.length_range, hlen] at this
    exact Nat.not_succ_le_self n this

@[simp] theorem length_flipIdx (s axes : List Nat) (i : Idx) : (flipIdx s axes i).length = i.length := by
  simp [flipIdx]

theorem getD_flipIdx (s axes : List Nat) (i : Idx) {k : Nat} (h : k < i.length) :
    (flipIdx s axes i).getD k 0 = if axes.contains k then s.getD k 0 - 1 - i.getD k 0 else i.getD k 0 := by
  rw [flipIdx, List.getD_eq_getElem?_getD, List.getElem?_map, List.getElem?_range h]
  rfl

theorem InB_flipIdx {s : List Nat} (axes : List Nat) {i : Idx} (h : InB i s) : InB (flipIdx s axes i) s := by
  rw [InB_iff_getD] at h ⊢
  refine ⟨by simpa using h.1, fun k hk => ?_⟩
  have hk' : k < i.length := by simpa using hk
  have := h.2 k hk'
  rw [getD_flipIdx _ _ _ hk']
  split <;> omega

theorem flipIdx_flipIdx {s : List Nat} (axes : List Nat) {i : Idx} (h : InB i s) :
    flipIdx s axes (flipIdx s axes i) = i := by
  have hb := (InB_iff_getD.mp h).2
  apply List.ext_getElem
  · simp
  · intro k h1 h2
    rw [← getD_eq_getElem _ h1, ← getD_eq_getElem _ h2, getD_flipIdx _ _ _ (by simpa using h2),
      getD_flipIdx _ _ _ h2]
    have := hb k h2
    split <;> omega

/-- one (axis, shift) pair of `roll`: `c ↦ (c + s) % n` on that axis -/
def rollStep (shape : List Nat) (acc : Idx) (p : Nat × Int) : Idx :=
  acc.set p.1 (((acc.getD p.1 0 : Int) + p.2) % ((shape.getD p.1 0 : Nat) : Int)).toNat

theorem rollIdx_eq_foldl (shape axes : List Nat) (shifts : List Int) (i : Idx) :
    rollIdx shape axes shifts i = (List.zip axes shifts).foldl (rollStep shape) i := rfl

theorem InB_rollStep {s : List Nat} {i : Idx} (p : Nat × Int) (h : InB i s) : InB (rollStep s i p) s := by
  rw [InB_iff_getD] at h ⊢
  unfold rollStep
  refine ⟨by simpa using h.1, fun k hk => ?_⟩
  have hk' : k < i.length := by simpa using hk
  have hb := h.2 k hk'
  by_cases ha : p.1 = k
  · rw [ha, getD_set_eq _ _ _ hk']
    have hpos : (0 : Int) < ((s.getD k 0 : Nat) : Int) := by omega
    have h1 := Int.emod_lt_of_pos ((i.getD k 0 : Int) + p.2) hpos
    have h2 := Int.emod_nonneg ((i.getD k 0 : Int) + p.2) (Int.ne_of_gt hpos)
    omega
  · rw [getD_set_ne _ _ _ _ ha]; exact hb

theorem rollStep_inv {s : List Nat} {i : Idx} (a : Nat) (sh : Int) (h : InB i s) :
    rollStep s (rollStep s i (a, sh)) (a, -sh) = i := by
  have hb := (InB_iff_getD.mp h).2
  unfold rollStep
  by_cases ha : a < i.length
  · have hc := hb a ha
    simp only [getD_set_eq _ _ _ ha, List.set_set]
    have hpos : (0 : Int) < ((s.getD a 0 : Nat) : Int) := by omega
    have h2 := Int.emod_nonneg ((i.getD a 0 : Int) + sh) (Int.ne_of_gt hpos)
    rw [Int.toNat_of_nonneg h2, Int.emod_add_emod, Int.add_neg_cancel_right,
      Int.emod_eq_of_lt (by omega) (by omega), Int.toNat_natCast, getD_eq_getElem _ ha]
    exact List.set_getElem_self ha
  · have hle : i.length ≤ a := by omega
    rw [List.set_eq_of_length_le (by simpa using hle), List.set_eq_of_length_le hle]

theorem InB_foldl_rollStep {s : List Nat} (ps : List (Nat × Int)) {i : Idx} (h : InB i s) :
    InB (ps.foldl (rollStep s) i) s := by
  induction ps generalizing i with
  | nil => exact h
  | cons p ps ih => exact ih (InB_rollStep p h)

theorem foldl_rollStep_inv {s : List Nat} (ps : List (Nat × Int)) {i : Idx} (h : InB i s) :
    (ps.reverse.map fun p => (p.1, -p.2)).foldl (rollStep s) (ps.foldl (rollStep s) i) = i := by
  induction ps generalizing i with
  | nil => rfl
  | cons p ps ih =>
    simp only [List.reverse_cons, List.map_append, List.foldl_append, List.foldl_cons, List.map_cons,
      List.map_nil, List.foldl_nil]
    rw [ih (InB_rollStep p h)]
    exact rollStep_inv p.1 p.2 h

theorem zip_reverse_neg {axes : List Nat} {shifts : List Int} (hl : axes.length = shifts.length) :
    List.zip axes.reverse (shifts.reverse.map fun s => -s)
      = (List.zip axes shifts).reverse.map fun p => (p.1, -p.2) := by
  rw [List.zip_map_right, List.zip_eq_zipWith, List.zip_eq_zipWith, ← List.reverse_zipWith hl]
  rfl

theorem InB_rollIdx {s : List Nat} (axes : List Nat) (shifts : List Int) {i : Idx} (h : InB i s) :
    InB (rollIdx s axes shifts i) s := InB_foldl_rollStep _ h

theorem rollIdx_inv_left {s axes : List Nat} {shifts : List Int} (hl : axes.length = shifts.length)
    {i : Idx} (h : InB i s) :
    rollIdx s axes.reverse (shifts.reverse.map fun s => -s) (rollIdx s axes shifts i) = i := by
  rw [rollIdx_eq_foldl, rollIdx_eq_foldl, zip_reverse_neg hl]
  exact foldl_rollStep_inv _ h

theorem rollIdx_inv_right {s axes : List Nat} {shifts : List Int} (hl : axes.length = shifts.length)
    {j : Idx} (h : InB j s) :
    rollIdx s axes shifts (rollIdx s axes.reverse (shifts.reverse.map fun s => -s) j) = j := by
  rw [rollIdx_eq_foldl, rollIdx_eq_foldl, zip_reverse_neg hl]
  have := foldl_rollStep_inv ((List.zip axes shifts).reverse.map fun p => (p.1, -p.2)) h
  simpa [List.map_reverse, Function.comp_def] using this

/-- `dropAxes` by structural recursion: `a` is the axis number of the head -/
def dropFrom (axes : List Nat) : Nat → List Nat → List Nat
  | _, [] => []
  | a, c :: l => if axes.contains a then dropFrom axes (a + 1) l else c :: dropFrom axes (a + 1) l

def reinsertFrom (axes : List Nat) : Nat → List Nat → Idx → Idx
  | _, [], _ => []
  | a, _ :: s, j =>
    if axes.contains a then 0 :: reinsertFrom axes (a + 1) s j
    else j.headD 0 :: reinsertFrom axes (a + 1) s j.tail

/-- the operand index read by result index `j` of `squeeze`: 0 at the squeezed axes, `j` elsewhere -/
def unsqueezeIdx (shape axes : List Nat) (j : Idx) : Idx := reinsertFrom axes 0 shape j

theorem dropFrom_cons_pos {axes : List Nat} {a : Nat} (h : axes.contains a = true) (c : Nat) (l : List Nat) :
    dropFrom axes a (c :: l) = dropFrom axes (a + 1) l := by
  simp only [dropFrom, h, if_true]

theorem dropFrom_cons_neg {axes : List Nat} {a : Nat} (h : axes.contains a = false) (c : Nat) (l : List Nat) :
    dropFrom axes a (c :: l) = c :: dropFrom axes (a + 1) l := by
  simp only [dropFrom, h, Bool.false_eq_true, if_false]

theorem reinsertFrom_cons_pos {axes : List Nat} {a : Nat} (h : axes.contains a = true) (d : Nat)
    (s : List Nat) (j : Idx) : reinsertFrom axes a (d :: s) j = 0 :: reinsertFrom axes (a + 1) s j := by
  simp only [reinsertFrom, h, if_true]

theorem reinsertFrom_cons_neg {axes : List Nat} {a : Nat} (h : axes.contains a = false) (d : Nat)
    (s : List Nat) (j : Idx) :
    reinsertFrom axes a (d :: s) j = j.headD 0 :: reinsertFrom axes (a + 1) s j.tail := by
  simp only [reinsertFrom, h, Bool.false_eq_true, if_false]

theorem filterMap_range'_dropFrom (axes : List Nat) : ∀ (l : List Nat) (a : Nat),
    ((List.range' a l.length).filterMap fun b => if axes.contains b then none else some (l.getD (b - a) 0))
      = dropFrom axes a l
  | [], _ => by simp [dropFrom]
  | c :: l, a => by
    have ih := filterMap_range'_dropFrom axes l (a + 1)
    have hcongr : ((List.range' (a + 1) l.length).filterMap fun b =>
          if axes.contains b then none else some ((c :: l).getD (b - a) 0))
        = (List.range' (a + 1) l.length).filterMap fun b =>
          if axes.contains b then none else some (l.getD (b - (a + 1)) 0) := by
      apply filterMap_congr_mem
      intro b hb
      have hb' : a + 1 ≤ b := (List.mem_range'_1.mp hb).1
      have : b - a = (b - (a + 1)) + 1 := by omega
      rw [this, List.getD_cons_succ]
    rw [List.length_cons, List.range'_succ, List.filterMap_cons, hcongr, ih]
    cases hc : axes.contains a with
    | true => rw [dropFrom_cons_pos hc]; simp
    | false => rw [dropFrom_cons_neg hc]; simp

theorem dropAxes_eq_dropFrom (l axes : List Nat) : dropAxes l axes = dropFrom axes 0 l := by
  unfold dropAxes
  rw [List.range_eq_range', ← filterMap_range'_dropFrom axes l 0]
  simp

theorem ones_tail {axes : List Nat} {a d : Nat} {s : List Nat}
    (hone : ∀ k, k < (d :: s).length → axes.contains (a + k) = true → (d :: s).getD k 0 = 1) :
    ∀ k, k < s.length → axes.contains (a + 1 + k) = true → s.getD k 0 = 1 :=
  fun k hk hc => hone (k + 1) (Nat.succ_lt_succ hk) (by rwa [Nat.add_right_comm, Nat.add_assoc] at hc)

theorem reinsertFrom_dropFrom (axes : List Nat) : ∀ (s : List Nat) (a : Nat) (i : Idx), InB i s →
    (∀ k, k < s.length → axes.contains (a + k) = true → s.getD k 0 = 1) →
    reinsertFrom axes a s (dropFrom axes a i) = i := by
  intro s a i h
  induction i, s, h using InB.induction generalizing a with
  | nil => exact fun _ => rfl
  | cons c i d s hc _ ih =>
    intro hone
    have ih := ih (a + 1) (ones_tail hone)
    cases hca : axes.contains a with
    | true =>
      obtain rfl : d = 1 := hone 0 (Nat.zero_lt_succ _) hca
      obtain rfl : c = 0 := Nat.lt_one_iff.mp hc
      rw [dropFrom_cons_pos hca, reinsertFrom_cons_pos hca, ih]
    | false =>
      rw [dropFrom_cons_neg hca, reinsertFrom_cons_neg hca, List.headD_cons, List.tail_cons, ih]

theorem reinsertFrom_spec (axes : List Nat) (s : List Nat) (a : Nat) (j : Idx)
    (h : InB j (dropFrom axes a s)) :
    dropFrom axes a (reinsertFrom axes a s j) = j ∧
    ((∀ k, k < s.length → axes.contains (a + k) = true → s.getD k 0 = 1) →
      InB (reinsertFrom axes a s j) s) := by
  induction s generalizing a j with
  | nil =>
    cases j with
    | nil => exact ⟨rfl, fun _ => trivial⟩
    | cons => exact h.elim
  | cons d s ih =>
    cases hc : axes.contains a with
    | true =>
      rw [dropFrom_cons_pos hc] at h
      obtain ⟨ih1, ih2⟩ := ih (a + 1) j h
      rw [reinsertFrom_cons_pos hc, dropFrom_cons_pos hc]
      refine ⟨ih1, fun hone => ⟨?_, ih2 (ones_tail hone)⟩⟩
      rw [show d = 1 from hone 0 (Nat.zero_lt_succ _) hc]
      exact Nat.one_pos
    | false =>
      rw [dropFrom_cons_neg hc] at h
      obtain ⟨c, j, rfl, hcd, hj⟩ := InB_cons_right h
      obtain ⟨ih1, ih2⟩ := ih (a + 1) j hj
      rw [reinsertFrom_cons_neg hc, dropFrom_cons_neg hc, List.headD_cons, List.tail_cons, ih1]
      exact ⟨rfl, fun hone => ⟨hcd, ih2 (ones_tail hone)⟩⟩

theorem ones_shift {s axes : List Nat} (hone : ∀ a ∈ axes, s.getD a 0 = 1) :
    ∀ k, k < s.length → axes.contains (0 + k) = true → s.getD k 0 = 1 := by
  intro k _ hc
  rw [Nat.zero_add] at hc
  exact hone k (by simpa using hc)

theorem unsqueeze_dropAxes {s axes : List Nat} {i : Idx} (h : InB i s) (hone : ∀ a ∈ axes, s.getD a 0 = 1) :
    unsqueezeIdx s axes (dropAxes i axes) = i := by
  rw [dropAxes_eq_dropFrom]
  exact reinsertFrom_dropFrom axes s 0 i h (ones_shift hone)

theorem dropAxes_unsqueeze {s axes : List Nat} {j : Idx} (h : InB j (dropAxes s axes)) :
    dropAxes (unsqueezeIdx s axes j) axes = j := by
  rw [dropAxes_eq_dropFrom] at h ⊢
  exact (reinsertFrom_spec axes s 0 j h).1

theorem InB_unsqueeze {s axes : List Nat} {j : Idx} (h : InB j (dropAxes s axes))
    (hone : ∀ a ∈ axes, s.getD a 0 = 1) : InB (unsqueezeIdx s axes j) s := by
  rw [dropAxes_eq_dropFrom] at h
  exact (reinsertFrom_spec axes s 0 j h).2 (ones_shift hone)

@[simp] theorem insertAt_zero (l : List Nat) (v : Nat) : insertAt l 0 v = v :: l := by simp [insertAt]
@[simp] theorem insertAt_cons_succ (c : Nat) (l : List Nat) (pos v : Nat) :
    insertAt (c :: l) (pos + 1) v = c :: insertAt l pos v := by simp [insertAt]

theorem eraseIdx_insertAt : ∀ (pos : Nat) (i : List Nat) (v : Nat), pos ≤ i.length →
    (insertAt i pos v).eraseIdx pos = i
  | 0, i, v, _ => by simp
  | pos + 1, [], _, h => by simp at h
  | pos + 1, c :: i, v, h => by
    simp [eraseIdx_insertAt pos i v (by simpa using h)]

namespace COO

theorem getD_insertAt_self (i : Idx) (axis k : Nat) (h : axis ≤ i.length) : (insertAt i axis k).getD axis 0 = k := by
  unfold insertAt
  rw [List.getD_eq_getElem?_getD, List.getElem?_append_right (by simp; omega)]
  simp [Nat.min_eq_left h]

theorem insertAt_eraseIdx (j : Idx) (axis : Nat) (h : axis < j.length) :
    insertAt (j.eraseIdx axis) axis (j.getD axis 0) = j := by
  unfold insertAt
  have hl : (j.take axis).length = axis := by simp; omega
  rw [List.eraseIdx_eq_take_drop_succ, List.take_left' hl, List.drop_left' hl]
  rw [getD_eq_getElem j h, ← List.drop_eq_getElem_cons h, List.take_append_drop]

end COO

theorem InB_insertAt_j (i s : List Nat) (axis k m : Nat) (h : axis ≤ s.length) :
    InB (insertAt i axis k) (insertAt s axis m) ↔ k < m ∧ InB i s := by
  induction axis generalizing i s with
  | zero => simp
  | succ a ih =>
    match i, s, h with
    | x :: is, d :: ds, h =>
      simp only [insertAt_cons_succ, InB_cons, ih is ds (Nat.le_of_succ_le_succ h), and_left_comm]
    | [], d :: ds, _ =>
      simp only [insertAt, List.take_nil, List.drop_nil, List.nil_append, List.take_succ_cons, List.drop_succ_cons,
        List.cons_append, InB_cons, InB_nil_cons, and_false, iff_false, not_and]
      intro _ hin
      have := InB_length hin
      simp at this

theorem InB_insertAt (pos : Nat) {j s : List Nat} (h : InB j s) (hp : pos ≤ s.length) :
    InB (insertAt j pos 0) (insertAt s pos 1) := (InB_insertAt_j j s pos 0 1 hp).mpr ⟨Nat.one_pos, h⟩

theorem InB_insertAt_surj (pos : Nat) (s : List Nat) (k : Idx) (hp : pos ≤ s.length)
    (h : InB k (insertAt s pos 1)) : ∃ j, InB j s ∧ k = insertAt j pos 0 := by
  induction pos generalizing s k with
  | zero =>
    rw [insertAt_zero] at h
    obtain ⟨c, k, rfl, hc, hk⟩ := InB_cons_right h
    exact ⟨k, hk, by rw [insertAt_zero, Nat.lt_one_iff.mp hc]⟩
  | succ pos ih =>
    cases s with
    | nil => cases hp
    | cons d s =>
      rw [insertAt_cons_succ] at h
      obtain ⟨c, k, rfl, hc, hk⟩ := InB_cons_right h
      obtain ⟨j, hj, rfl⟩ := ih s k (Nat.le_of_succ_le_succ hp) hk
      exact ⟨c :: j, ⟨hc, hj⟩, (insertAt_cons_succ ..).symm⟩

end SparseV
