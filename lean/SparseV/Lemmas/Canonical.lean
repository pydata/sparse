/-
  SparseV.Lemmas.Canonical — the constructor's passes establish the canonical order (strictly
  increasing row-major linear location); on distinct in-bounds indices the sort alone does, and
  summing duplicates then changes nothing; filtering, pruning, shifting every location by a
  constant and `reshape` keep it.
-/
import SparseV.Lemmas.Assoc
import SparseV.Lemmas.Index
namespace SparseV
namespace COO
variable {α : Type}

def lin (shape : List Nat) (es : List (Idx × α)) : List Nat := es.map fun e => ravel e.1 shape

def SortedLin (shape : List Nat) (es : List (Idx × α)) : Prop := (lin shape es).Pairwise (· < ·)
/-- what `_sort_indices` establishes: non-decreasing linear location -/
def SortedLe (shape : List Nat) (es : List (Idx × α)) : Prop := (lin shape es).Pairwise (· ≤ ·)

theorem sortedLe_cons {shape : List Nat} {e : Idx × α} {es : List (Idx × α)} :
    SortedLe shape (e :: es) ↔ (∀ e' ∈ es, ravel e.1 shape ≤ ravel e'.1 shape) ∧ SortedLe shape es := by
  simp only [SortedLe, lin, List.map_cons, List.pairwise_cons, List.forall_mem_map]

theorem sortedLin_cons {shape : List Nat} {e : Idx × α} {es : List (Idx × α)} :
    SortedLin shape (e :: es) ↔ (∀ e' ∈ es, ravel e.1 shape < ravel e'.1 shape) ∧ SortedLin shape es := by
  simp only [SortedLin, lin, List.map_cons, List.pairwise_cons, List.forall_mem_map]

theorem sortEntries_sortedLe (shape : List Nat) (es : List (Idx × α)) : SortedLe shape (sortEntries shape es) := by
  unfold SortedLe lin sortEntries
  rw [List.pairwise_map]
  have h := List.pairwise_mergeSort
    (le := fun (a b : Idx × α) => decide (ravel a.1 shape ≤ ravel b.1 shape))
    (fun a b c hab hbc => by simp only [decide_eq_true_eq] at *; omega)
    (fun a b => by simp only [Bool.or_eq_true, decide_eq_true_eq]; omega) es
  exact h.imp (fun hab => by simpa using hab)

theorem mem_sortEntries {shape : List Nat} {es : List (Idx × α)} {e : Idx × α} :
    e ∈ sortEntries shape es ↔ e ∈ es := (sortEntries_perm shape es).mem_iff

theorem sumDup_keys_sub [Add α] (shape : List Nat) (es : List (Idx × α)) :
    ∀ e ∈ sumDup shape es, ∃ e' ∈ es, e.1 = e'.1 := by
  fun_induction sumDup shape es with
  | case1 => exact fun _ he => nomatch he
  | case2 e0 => exact fun e he => ⟨e, he, rfl⟩
  | case3 e1 e2 rest heq ih =>
    intro e he
    obtain ⟨e', he', h⟩ := ih e he
    rcases List.mem_cons.mp he' with h1 | h1
    · exact ⟨e1, List.mem_cons_self, by rw [h, h1]⟩
    · exact ⟨e', List.mem_cons_of_mem _ (List.mem_cons_of_mem _ h1), h⟩
  | case4 e1 e2 rest hne ih =>
    intro e he
    rcases List.mem_cons.mp he with h1 | h1
    · exact ⟨e1, List.mem_cons_self, by rw [h1]⟩
    · obtain ⟨e', he', h⟩ := ih e h1
      exact ⟨e', List.mem_cons_of_mem _ he', h⟩

theorem sumDup_sortedLin [Add α] (shape : List Nat) (es : List (Idx × α)) (h : SortedLe shape es) :
    SortedLin shape (sumDup shape es) := by
  fun_induction sumDup shape es with
  | case1 => exact List.Pairwise.nil
  | case2 e => exact List.pairwise_singleton _ _
  | case3 e1 e2 rest heq ih =>
    obtain ⟨h1, h2⟩ := sortedLe_cons.mp h
    exact ih (sortedLe_cons.mpr ⟨fun e' he' => h1 e' (List.mem_cons_of_mem _ he'), (sortedLe_cons.mp h2).2⟩)
  | case4 e1 e2 rest hne ih =>
    obtain ⟨h1, h2⟩ := sortedLe_cons.mp h
    refine sortedLin_cons.mpr ⟨fun e he => ?_, ih h2⟩
    -- what survives after `e1` sits at a location of `e2 :: rest`, all of which are beyond `e1`'s
    obtain ⟨e', he', hk⟩ := sumDup_keys_sub shape _ e he
    rw [hk]
    have h12 := h1 e2 List.mem_cons_self
    rcases List.mem_cons.mp he' with rfl | hr
    · omega
    · have := (sortedLe_cons.mp h2).1 e' hr
      omega

theorem filter_sortedLin (shape : List Nat) (p : Idx × α → Bool) (es : List (Idx × α))
    (h : SortedLin shape es) : SortedLin shape (es.filter p) :=
  h.sublist (List.Sublist.map _ List.filter_sublist)

theorem mapIdx_sortedLin (f : Idx → Idx) (c : Nat) {shape shape' : List Nat} {es : List (Idx × α)}
    (hf : ∀ e ∈ es, ravel (f e.1) shape' = ravel e.1 shape + c) (hs : SortedLin shape es) :
    SortedLin shape' (mapIdx f es) := by
  unfold SortedLin lin mapIdx at *
  rw [List.map_map, List.pairwise_map]
  rw [List.pairwise_map] at hs
  exact hs.imp_of_mem fun ha hb h => by
    rw [Function.comp, Function.comp, hf _ ha, hf _ hb]
    exact Nat.add_lt_add_right h c

theorem prune_sortedLin [DecidableEq α] (shape : List Nat) (fill : α) (es : List (Idx × α))
    (h : SortedLin shape es) : SortedLin shape (pruneEntries fill es) :=
  filter_sortedLin shape _ es h

theorem sortedLin_keys_nodup (shape : List Nat) (es : List (Idx × α)) (hc : SortedLin shape es) :
    (keysOf es).Nodup := by
  unfold SortedLin lin at hc
  unfold keysOf List.Nodup
  rw [List.pairwise_map] at hc ⊢
  exact hc.imp (fun {a b} h heq => by rw [heq] at h; exact Nat.lt_irrefl _ h)

theorem sortedLin_of_le_nodup (shape : List Nat) (es : List (Idx × α)) (hle : SortedLe shape es)
    (hnd : (keysOf es).Nodup) (hwf : ∀ e ∈ es, InB e.1 shape) : SortedLin shape es := by
  induction es with
  | nil => exact List.Pairwise.nil
  | cons e es ih =>
    obtain ⟨h1, h2⟩ := sortedLe_cons.mp hle
    obtain ⟨hn1, hn2⟩ := List.nodup_cons.mp hnd
    refine sortedLin_cons.mpr ⟨fun e' he' => ?_, ih h2 hn2 fun e' he' => hwf e' (List.mem_cons_of_mem _ he')⟩
    have hne : ravel e.1 shape ≠ ravel e'.1 shape := fun heq =>
      hn1 (List.mem_map.mpr
        ⟨e', he', (ravel_inj (hwf e List.mem_cons_self) (hwf e' (List.mem_cons_of_mem _ he')) heq).symm⟩)
    have := h1 e' he'
    omega

theorem sortEntries_sortedLin (shape : List Nat) (es : List (Idx × α)) (hnd : (keysOf es).Nodup)
    (hwf : ∀ e ∈ es, InB e.1 shape) : SortedLin shape (sortEntries shape es) :=
  sortedLin_of_le_nodup shape _ (sortEntries_sortedLe shape es) (nodup_sortEntries shape es hnd)
    fun e he => hwf e (mem_sortEntries.mp he)

theorem build_wf_sorted [Add α] [DecidableEq α] (shape : List Nat) (es : List (Idx × α)) (fill : α)
    (prune : Bool) (hwf : ∀ e ∈ es, InB e.1 shape) :
    (COO.build shape es fill false true prune).WF ∧
    SortedLin shape (COO.build shape es fill false true prune).entries := by
  have h2 := sumDup_sortedLin shape _ (sortEntries_sortedLe shape es)
  have hwf2 : ∀ e ∈ sumDup shape (sortEntries shape es), InB e.1 shape := by
    intro e he
    obtain ⟨e', he', h⟩ := sumDup_keys_sub shape _ e he
    rw [h]
    exact hwf e' (mem_sortEntries.mp he')
  cases prune with
  | false => exact ⟨hwf2, h2⟩
  | true => exact ⟨fun e he => hwf2 e (List.mem_filter.mp he).1, prune_sortedLin shape fill _ h2⟩

theorem sumDup_eq_self_of_sortedLin [Add α] (shape : List Nat) (es : List (Idx × α))
    (h : SortedLin shape es) : sumDup shape es = es := by
  fun_induction sumDup shape es with
  | case1 => rfl
  | case2 e => rfl
  | case3 e1 e2 rest heq ih =>
    have := (sortedLin_cons.mp h).1 e2 List.mem_cons_self
    omega
  | case4 e1 e2 rest hne ih => rw [ih (sortedLin_cons.mp h).2]

theorem lookup_build_distinct [Add α] [DecidableEq α] (shape : List Nat) (es : List (Idx × α)) (d : α)
    (prune : Bool) (hnd : (keysOf es).Nodup) (hwf : ∀ e ∈ es, InB e.1 shape) (j : Idx) :
    (COO.build shape es d false true prune).get j = lookup es d j := by
  simp only [COO.build, COO.get, Bool.false_eq_true, if_false, if_true]
  rw [sumDup_eq_self_of_sortedLin shape _ (sortEntries_sortedLin shape es hnd hwf)]
  cases prune with
  | false => exact lookup_sortEntries shape es d j hnd
  | true =>
    rw [if_pos rfl, lookup_prune d _ j (nodup_sortEntries shape es hnd)]
    exact lookup_sortEntries shape es d j hnd

theorem lin_reshapeCore (x : COO α) (s : List Nat) (hwf : x.WF) (hsize : prod x.shape = prod s) :
    lin s (x.reshapeCore s).entries = lin x.shape x.entries := by
  unfold reshapeCore
  by_cases hs : x.shape = s
  · rw [if_pos hs, hs]
  · rw [if_neg hs]
    simp only [lin, mapIdx, List.map_map]
    apply List.map_congr_left
    intro e he
    exact ravel_unravel s _ (hsize ▸ ravel_lt (hwf e he))

theorem reshapeCore_facts (x : COO α) (s : List Nat) (hwf : x.WF) (hsize : prod x.shape = prod s) :
    (x.reshapeCore s).shape = s ∧ (x.reshapeCore s).fill = x.fill ∧ (x.reshapeCore s).WF := by
  unfold reshapeCore
  split
  next h => exact ⟨h, rfl, hwf⟩
  next =>
    refine ⟨rfl, rfl, fun e he => ?_⟩
    obtain ⟨e0, he0, rfl⟩ := List.mem_map.mp he
    exact unravel_InB s _ (hsize ▸ ravel_lt (hwf e0 he0))

/-- `reshape` keeps the canonical order (its `sorted=True` promise) -/
theorem reshapeCore_sorted (x : COO α) (s : List Nat) (hwf : x.WF) (hsize : prod x.shape = prod s)
    (hs : SortedLin x.shape x.entries) : SortedLin s (x.reshapeCore s).entries := by
  unfold SortedLin
  rw [lin_reshapeCore x s hwf hsize]
  exact hs

end COO
end SparseV
