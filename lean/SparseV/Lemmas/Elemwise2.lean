/- The three pieces of the two-operand mask algorithm: what they hold and which indices they cover -/
import SparseV.Model.Elemwise2
import SparseV.Lemmas.Assoc
namespace SparseV
namespace COO
variable {α β γ : Type}

theorem contains_keys (B : List (Idx × β)) (i : Idx) : (B.map (·.1)).contains i = true ↔ i ∈ keysOf B := by
  simp [keysOf]

/-- the search by key that `matched` makes is the one `lookup` makes -/
theorem find?_key (B : List (Idx × β)) (fb : β) (i : Idx) :
    (B.find? (fun b => b.1 == i) = none ∧ i ∉ keysOf B ∧ lookup B fb i = fb) ∨
    ∃ eb, B.find? (fun b => b.1 == i) = some eb ∧ i ∈ keysOf B ∧ lookup B fb i = eb.2 := by
  unfold lookup
  cases hf : B.find? (fun b => b.1 == i) with
  | none =>
    refine Or.inl ⟨rfl, fun hk => ?_, rfl⟩
    obtain ⟨e, he, rfl⟩ := List.mem_map.mp hk
    exact absurd (beq_self_eq_true e.1) (List.find?_eq_none.mp hf e he)
  | some eb =>
    refine Or.inr ⟨eb, rfl, ?_, rfl⟩
    have : eb.1 = i := by simpa using List.find?_some hf
    exact this ▸ List.mem_map.mpr ⟨eb, List.mem_of_find?_eq_some hf, rfl⟩

theorem lookup_eq_of_forall {es : List (Idx × γ)} {fill : γ} {i : Idx} {v : γ}
    (hall : ∀ e ∈ es, e.1 = i → e.2 = v) (hex : i ∈ keysOf es) : lookup es fill i = v := by
  rcases find?_key es fill i with ⟨-, hn, -⟩ | ⟨e, hf, -, hl⟩
  · exact absurd hex hn
  · rw [hl]
    exact hall e (List.mem_of_find?_eq_some hf) (by simpa using List.find?_some hf)

theorem pieces_val (f : α → β → γ) {A : List (Idx × α)} (fa : α) {B : List (Idx × β)} (fb : β)
    (hA : (keysOf A).Nodup) (hB : (keysOf B).Nodup) :
    ∀ e ∈ matched f A B ++ aOnly f fb A B ++ bOnly f fa A B, e.2 = f (lookup A fa e.1) (lookup B fb e.1) := by
  intro e he
  rw [List.mem_append, List.mem_append] at he
  rcases he with (h | h) | h
  · obtain ⟨ea, hea, hsome⟩ := List.mem_filterMap.mp h
    rcases find?_key B fb ea.1 with ⟨hf, -⟩ | ⟨eb, hf, -, hl⟩
    · rw [hf] at hsome; cases hsome
    · rw [hf] at hsome
      cases hsome
      rw [lookup_of_mem hA hea, hl]
  · obtain ⟨ea, hea, hsome⟩ := List.mem_filterMap.mp h
    split at hsome
    · cases hsome
    · next hc =>
      cases hsome
      rw [lookup_of_mem hA hea, lookup_of_not_mem (mt (contains_keys B ea.1).mpr hc)]
  · obtain ⟨eb, heb, hsome⟩ := List.mem_filterMap.mp h
    split at hsome
    · cases hsome
    · next hc =>
      cases hsome
      rw [lookup_of_mem hB heb, lookup_of_not_mem (mt (contains_keys A eb.1).mpr hc)]

theorem pieces_keys (f : α → β → γ) {A : List (Idx × α)} (fa : α) {B : List (Idx × β)} (fb : β) {i : Idx}
    (h : i ∈ keysOf A ∨ i ∈ keysOf B) : i ∈ keysOf (matched f A B ++ aOnly f fb A B ++ bOnly f fa A B) := by
  unfold keysOf
  simp only [List.map_append, List.mem_append]
  by_cases ha : i ∈ keysOf A
  · obtain ⟨ea, hea, rfl⟩ := List.mem_map.mp ha
    left
    rcases find?_key B fb ea.1 with ⟨hf, hb, -⟩ | ⟨eb, hf, -⟩
    · right
      refine List.mem_map.mpr ⟨(ea.1, f ea.2 fb), List.mem_filterMap.mpr ⟨ea, hea, ?_⟩, rfl⟩
      rw [if_neg (mt (contains_keys B ea.1).mp hb)]
    · left
      refine List.mem_map.mpr ⟨(ea.1, f ea.2 eb.2), List.mem_filterMap.mpr ⟨ea, hea, ?_⟩, rfl⟩
      rw [hf]
  · obtain ⟨eb, heb, rfl⟩ := List.mem_map.mp (h.resolve_left ha)
    right
    refine List.mem_map.mpr ⟨(eb.1, f fa eb.2), List.mem_filterMap.mpr ⟨eb, heb, ?_⟩, rfl⟩
    rw [if_neg (mt (contains_keys A eb.1).mp ha)]

end COO
end SparseV
