/-
  SparseV.Lemmas.ProgElem — step lemmas of the program theorem for literal inputs, element-wise
  operations (unary, binary with broadcasting) and `broadcast_to`.
-/
import SparseV.Lemmas.ProgBase
import SparseV.Lemmas.ProgShape
import SparseV.Props.C01
namespace SparseV
open SparseV.COO

theorem lit_step (shape : List Nat) (es : List (Idx × Int)) (fill : Int) (prune : Bool) :
    Sim (litNoFill shape es fill prune) (Expr.mLit shape es fill prune) (Expr.sLit shape es fill) := by
  unfold Expr.mLit Expr.sLit
  refine SimR.require fun h => ?_
  have hwf : ∀ e ∈ es, InB e.1 shape := fun e he => of_decide_eq_true (List.all_eq_true.mp h e he)
  obtain ⟨h1, h2⟩ := build_wf_sorted shape es fill prune hwf
  refine Sim.ok ⟨h1, h2⟩ (fun hn => hn) ⟨rfl, rfl, fun i _ => ?_⟩
  rw [build_lookup shape es fill prune hwf i]
  show _ = if es.any (fun e => e.1 == i) then ((es.filter (fun e => e.1 == i)).map (·.2)).sum else fill
  have hany : (es.any (fun e => e.1 == i) = true) ↔ i ∈ keysOf es := by
    simp only [List.any_eq_true, beq_iff_eq, keysOf, List.mem_map]
  have hfil : (es.filter (fun e => e.1 == i)) = es.filter (fun e => decide (e.1 = i)) :=
    List.filter_congr (fun e _ => by by_cases hh : e.1 = i <;> simp [hh])
  by_cases hk : i ∈ keysOf es
  · rw [if_pos hk, if_pos (hany.mpr hk), hfil]; rfl
  · rw [if_neg hk, if_neg (fun hh => hk (hany.mp hh))]

theorem specPair_nat (a b : Nat) : C01.specPair a b =
    if (a == b || a == 1 || b == 1) = true then some ((if (a == 1) = true then b else a : Nat) : Int) else none := by
  unfold C01.specPair
  by_cases h1 : a = b
  · subst h1; simp
  · have e1 : ¬ ((a : Int) = (b : Int)) := by omega
    by_cases h2 : a = 1
    · subst h2; simp [e1]
    · have e2 : ¬ ((a : Int) = 1) := by omega
      by_cases h3 : b = 1
      · subst h3; simp [e1, e2, h2]
      · have e3 : ¬ ((b : Int) = 1) := by omega
        simp [h1, h2, h3, e1, e2, e3]

theorem npBroadcast2_eq (s1 s2 : List Nat) : npBroadcast2 s1 s2 = C01.specBshape s1 s2 := by
  unfold npBroadcast2 C01.specBshape specBshapeWith padL
  have hcond : (fun p : Nat × Nat => (C01.specPair p.1 p.2).isSome)
      = fun p => (p.1 == p.2 || p.1 == 1 || p.2 == 1) := by
    funext p
    rw [specPair_nat]
    cases (p.1 == p.2 || p.1 == 1 || p.2 == 1) <;> rfl
  have hval : ∀ p : Nat × Nat, (p.1 == p.2 || p.1 == 1 || p.2 == 1) = true →
      ((C01.specPair p.1 p.2).getD 0).toNat = if (p.1 == 1) = true then p.2 else p.1 := by
    intro p hp
    rw [specPair_nat, if_pos hp]
    rfl
  simp only [hcond]
  split
  · next hall =>
    congr 1
    apply List.map_congr_left
    intro p hp
    exact (hval p (List.all_eq_true.mp hall p hp)).symm
  · rfl

theorem bshapeN_pair_np (s1 s2 : List Nat) :
    bshapeN [s1, s2] = (match npBroadcast2 s1 s2 with | some r => .ok r | none => .error .value) := by
  rw [bshapeN_pair, C01.bshape2_comm, C01.bshape2_spec, npBroadcast2_eq]
  cases C01.specBshape s1 s2 <;> rfl

theorem fillConst_nodense (f : List Int → Int) (ops : List (Operand Int)) : FillConst f ops [] := by
  intro i hi i' hi'
  rw [inb_nil_eq hi, inb_nil_eq hi']

theorem fillPart_of_shape {x : COO Int} {d : Dense} (hr : Refines x d) :
    Expr.fillPart d = if x.shape = [] then x.get [] else x.fill := by
  unfold Expr.fillPart
  rw [← hr.shape]
  by_cases h : x.shape = []
  · rw [if_pos h, if_pos h]
    exact (hr.val [] (by rw [h]; trivial)).symm
  · rw [if_neg h, if_neg h]; exact hr.fill.symm

theorem elemwiseN_sparse (fn : List Int → Int) (ops : List (Operand Int)) (s : List Nat)
    (hc : ops.any Operand.isCoo = true) (hs : bshapeN (ops.map Operand.shape) = .ok s)
    (hn : bshapeN ((ops.filter Operand.isDense).map Operand.shape) = .ok []) (hwfo : ∀ o ∈ ops, o.WF) :
    ∃ r, elemwiseN fn ops = .ok (.sparse r) ∧ r.shape = s ∧ Good r ∧ r.NoFill ∧
      r.fill = fn (ops.map fun o => o.fillAt [] []) ∧
      ∀ j, InB j s → r.get j = fn (ops.map fun o => o.valueAt s j) := by
  obtain ⟨r, hr1, hshape⟩ := (C01.elemwise_decision fn ops s [] hc hs hn).1 (fillConst_nodense _ _)
  obtain ⟨_, ⟨nd, hnd, hfill⟩, hget, hnf, hwf, _, hsorted⟩ := C01.elemwiseN_get fn ops hwfo r hr1
  cases Except.ok.inj (hnd.symm.trans hn)
  subst hshape
  exact ⟨r, hr1, rfl, ⟨hwf, hsorted⟩, hnf, hfill [] trivial, hget⟩

theorem ew1_step (f : Int → Int) (x : COO Int) (d : Dense) (hg : Good x) (hr : Refines x d) :
    Sim x.NoFill (Expr.mEw1 f x) (Expr.sEw1 f d) := by
  unfold Expr.mEw1 Expr.sEw1
  rw [fillPart_of_shape hr]
  by_cases h0 : x.shape = []
  · -- a 0-d operand is densified: no stored element, the fill value is the function of the element
    rw [if_pos h0, if_pos h0]
    refine Sim.ok ⟨(fun e he => by cases he), List.Pairwise.nil⟩ (fun _ e he => by cases he)
      ⟨by rw [← hr.shape, h0], rfl, fun i hi => ?_⟩
    cases inb_nil_eq hi
    show f (x.get []) = f (d.val [])
    rw [hr.val [] (by rw [h0]; trivial)]
  · rw [if_neg h0, if_neg h0]
    obtain ⟨r, hr1, hshape, hgood, hnf, hfill, hget⟩ := elemwiseN_sparse (Expr.fn1 f) [Operand.coo x] x.shape rfl
      (C01.bshapeN_single x.shape) rfl (List.forall_mem_singleton.mpr ⟨hg.wf, hg.nodup⟩)
    rw [hr1]
    refine Sim.ok hgood (fun _ => hnf) ⟨hshape.trans hr.shape, hfill, fun j hj => ?_⟩
    rw [hshape] at hj
    rw [hget j hj]
    show f (x.get (projIdx x.shape x.shape j)) = f (d.val j)
    rw [projIdx_self hj, hr.val j hj]

theorem operandOf_nil {x : COO Int} (h : x.shape = []) : Expr.operandOf x = .dense [] [x.get []] := if_pos h

theorem operandOf_cons {x : COO Int} (h : ¬ x.shape = []) : Expr.operandOf x = .coo x := if_neg h

theorem operandOf_shape (x : COO Int) : (Expr.operandOf x).shape = x.shape := by
  by_cases h : x.shape = []
  · rw [operandOf_nil h, h]; rfl
  · rw [operandOf_cons h]; rfl

theorem operandOf_wf {x : COO Int} (hg : Good x) : (Expr.operandOf x).WF := by
  by_cases h : x.shape = []
  · rw [operandOf_nil h]; trivial
  · rw [operandOf_cons h]; exact ⟨hg.wf, hg.nodup⟩

theorem operandOf_valueAt {x : COO Int} {d : Dense} (hr : Refines x d) {s : List Nat} {j : Idx}
    (hb : BcTo x.shape s) (hj : InB j s) :
    (Expr.operandOf x).valueAt s j = d.val (projIdx d.shape s j) := by
  rw [← hr.shape]
  by_cases h : x.shape = []
  · -- a densified 0-d operand contributes its element, whatever `s` and `j`
    rw [operandOf_nil h, h]
    exact hr.val [] (by rw [h]; trivial)
  · rw [operandOf_cons h]
    exact hr.val _ (projIdx_InB hb hj)

theorem operandOf_fillAt {x : COO Int} {d : Dense} (hr : Refines x d) :
    (Expr.operandOf x).fillAt [] [] = Expr.fillPart d := by
  rw [fillPart_of_shape hr]
  by_cases h : x.shape = []
  · rw [operandOf_nil h, if_pos h]; rfl
  · rw [operandOf_cons h, if_neg h]; rfl

theorem ew2_step (f : Int → Int → Int) (x y : COO Int) (dx dy : Dense) (hgx : Good x) (hrx : Refines x dx)
    (hgy : Good y) (hry : Refines y dy) :
    Sim (x.NoFill ∧ y.NoFill) (Expr.mEw2 f x y) (Expr.sEw2 f dx dy) := by
  unfold Expr.mEw2 Expr.sEw2
  rw [← hrx.shape, ← hry.shape]
  by_cases h00 : x.shape = [] ∧ y.shape = []
  · -- both operands 0-d: both are densified
    rw [if_pos h00, h00.1, h00.2]
    have hb : npBroadcast2 [] [] = some [] := by decide
    rw [hb]
    simp only []
    have hx0 : InB [] x.shape := by rw [h00.1]; trivial
    have hy0 : InB [] y.shape := by rw [h00.2]; trivial
    refine Sim.ok ⟨(fun e he => by cases he), List.Pairwise.nil⟩ (fun _ e he => by cases he) ⟨rfl, ?_, fun i hi => ?_⟩
    · show f (x.get []) (y.get []) = f (Expr.fillPart dx) (Expr.fillPart dy)
      rw [fillPart_of_shape hrx, fillPart_of_shape hry, if_pos h00.1, if_pos h00.2]
    · cases inb_nil_eq hi
      show f (x.get []) (y.get []) = f (dx.val []) (dy.val [])
      rw [hrx.val [] hx0, hry.val [] hy0]
  · rw [if_neg h00]
    have hmap : ([Expr.operandOf x, Expr.operandOf y] : List (Operand Int)).map Operand.shape = [x.shape, y.shape] := by
      simp only [List.map_cons, List.map_nil, operandOf_shape]
    have hc : ([Expr.operandOf x, Expr.operandOf y] : List (Operand Int)).any Operand.isCoo = true := by
      by_cases hx : x.shape = []
      · rw [operandOf_nil hx, operandOf_cons fun hy => h00 ⟨hx, hy⟩]; rfl
      · rw [operandOf_cons hx]; rfl
    -- whichever operand was densified is 0-d
    have hn : bshapeN ((([Expr.operandOf x, Expr.operandOf y] : List (Operand Int)).filter Operand.isDense).map Operand.shape)
        = .ok [] := by
      by_cases hx : x.shape = [] <;> by_cases hy : y.shape = []
      · exact absurd ⟨hx, hy⟩ h00
      · rw [operandOf_nil hx, operandOf_cons hy]; rfl
      · rw [operandOf_cons hx, operandOf_nil hy]; rfl
      · rw [operandOf_cons hx, operandOf_cons hy]; rfl
    have hpair := bshapeN_pair_np x.shape y.shape
    rw [← hmap] at hpair
    cases hb : npBroadcast2 x.shape y.shape with
    | none =>
      rw [hb] at hpair
      rw [elemwiseN_shape_err (Expr.fn2 f) [Expr.operandOf x, Expr.operandOf y] .value hc hpair]
      exact Sim.err _
    | some s =>
      rw [hb] at hpair
      obtain ⟨r, hr1, hshape, hgood, hnf, hfill, hget⟩ := elemwiseN_sparse (Expr.fn2 f) _ s hc hpair hn
        (List.forall_mem_cons.mpr ⟨operandOf_wf hgx, List.forall_mem_singleton.mpr (operandOf_wf hgy)⟩)
      have hbx : BcTo x.shape s := bcTo_of_bshapeN hpair (by simp [hmap])
      have hby : BcTo y.shape s := bcTo_of_bshapeN hpair (by simp [hmap])
      rw [hr1]
      refine Sim.ok hgood (fun _ => hnf) ⟨hshape, ?_, fun j hj => ?_⟩
      · rw [hfill]
        show f ((Expr.operandOf x).fillAt [] []) ((Expr.operandOf y).fillAt [] []) = _
        rw [operandOf_fillAt hrx, operandOf_fillAt hry]
      · rw [hshape] at hj
        rw [hget j hj]
        show f ((Expr.operandOf x).valueAt s j) ((Expr.operandOf y).valueAt s j) = f (dx.val _) (dy.val _)
        rw [operandOf_valueAt hrx hbx hj, operandOf_valueAt hry hby hj, ← hrx.shape, ← hry.shape]

theorem specBroadcastTo_eq (s t : List Nat) :
    C01.specBroadcastTo s t = if npBroadcastToOk s t = true then some t else none := by
  unfold npBroadcastToOk C01.specBroadcastTo padL
  have hcond : ((List.zip (List.replicate (t.length - s.length) 1 ++ s) t).all
        fun (p : Nat × Nat) => (p.1 == p.2 || p.1 == 1))
      = ((List.zip (List.replicate (t.length - s.length) 1 ++ s) t).all
        fun (p : Nat × Nat) => decide (p.1 = p.2 ∨ p.1 = 1)) := by
    congr 1; funext p
    by_cases h1 : p.1 = p.2 <;> by_cases h2 : p.1 = 1 <;> simp [h1, h2]
  rw [hcond]
  simp only [Bool.and_eq_true, decide_eq_true_eq]

theorem broadcastTo_step (s : List Nat) (x : COO Int) (d : Dense) (hg : Good x) (hr : Refines x d) :
    Sim x.NoFill (Expr.mBroadcastTo x s) (Expr.sBroadcastTo d s) := by
  unfold Expr.mBroadcastTo Expr.sBroadcastTo
  rw [← hr.shape]
  have hspec := specBroadcastTo_eq x.shape s
  by_cases hok : npBroadcastToOk x.shape s = true
  · rw [if_pos hok] at hspec ⊢
    obtain ⟨r, hr1, hshape, hfill, hwf, hrnd, hget⟩ := C01.broadcastTo_get x s hg.wf hg.nodup hspec
    have hb := C01.bshape2_of_specBroadcastTo hspec
    have href : Refines r { shape := s, fill := d.fill, val := fun j => d.val (projIdx x.shape s j) } :=
      ⟨hshape, hfill.trans hr.fill, fun j hj => by
        rw [hget j (hshape ▸ hj)]
        exact hr.val _ (projIdx_InB (bcTo_of_bshape2 hb) (hshape ▸ hj))⟩
    have hnf : x.NoFill → ∀ e ∈ COO.expand x.entries x.shape s, e.2 ≠ x.fill := fun hx e he =>
      hx (projIdx x.shape s e.1, e.2) ((C01.expand_mem x.entries x.shape s hspec hg.wf e.1 e.2).mp he).2
    rw [hr1]
    unfold COO.broadcastTo at hr1
    by_cases hsx : s = x.shape
    · rw [if_pos hsx] at hr1
      cases Except.ok.inj hr1
      exact Sim.ok hg (fun h => h) href
    · rw [if_neg hsx, hb] at hr1
      -- canonical order: the `sorted=` claim when it is made, the constructor's sort otherwise
      by_cases hadj : COO.expandSorted x.shape s = true
      · simp only [hadj, if_true] at hr1
        cases Except.ok.inj hr1
        exact Sim.ok ⟨hwf, (C01.broadcastTo_sorted_promise x s hg.wf hg.sorted hspec hadj).1⟩ hnf href
      · simp only [hadj, Bool.false_eq_true, if_false] at hr1
        cases Except.ok.inj hr1
        exact Sim.ok ⟨hwf, sortedLin_of_le_nodup _ _ (sortEntries_sortedLe _ _) hrnd hwf⟩
          (fun hx e he => hnf hx e (mem_sortEntries.mp he)) href
  · rw [if_neg hok] at hspec ⊢
    rw [C01.broadcastTo_error x s hspec]
    exact Sim.err _

end SparseV
