/-
  SparseV.Lemmas.NoInternal — the error classes the model operations can produce (property C18):
  none of them produces `Err.internal`; each produces only the class of clean rejections named here.
-/
import SparseV.Lemmas.Reduce
import SparseV.Model.Elemwise
import SparseV.Model.Reduce
import SparseV.Model.Getitem
import SparseV.Model.Convert
import SparseV.Lemmas.Validate
import SparseV.Lemmas.Gen.Slicing
namespace SparseV

theorem ite_pure_ne_error {β : Type} (c : Prop) [Decidable c] (a b : β) (e : Err) :
    (if c then (pure a : Except Err β) else pure b) ≠ .error e := by
  split <;> simp [pure, Except.pure]

theorem bshape2_error (s1 s2 : List Nat) (r : Bool) : Raises (· = .value) (bshape2 s1 s2 r) := by
  unfold bshape2
  exact .ite (.error rfl) (.ite .ok (.error rfl))

theorem bshapeN_error (shapes : List (List Nat)) : Raises (· = .value) (bshapeN shapes) :=
  .foldlM (fun b c => bshape2_error c b false) shapes []

namespace COO

theorem broadcastTo_error {α : Type} (x : COO α) (s : List Nat) (e : Err) (h : x.broadcastTo s = .error e) : e = Err.value := by
  revert e
  show Raises (· = .value) (x.broadcastTo s)
  unfold broadcastTo
  refine .ite .ok ?_
  cases hb : bshape2 x.shape s true with
  | error e' => exact .error (bshape2_error _ _ _ _ hb)
  | ok rs => exact .ok

theorem reduceCore_error (op : RedOp) (x : COO Int) (axes : Option (List Nat)) (kd : Bool) :
    Raises (· = .value) (reduceCore op x axes kd) := by
  rw [reduceCore_eq]
  exact .ite (.error rfl) (.ite (.error rfl) (.ite .ok .ok))

theorem reduce_error (op : RedOp) (x : COO Int) (axes : Option (List Int)) (kd : Bool) :
    Raises (· = .value) (reduce op x axes kd) := by
  unfold reduce
  cases axes with
  | none => exact reduceCore_error _ _ _ _
  | some as =>
    exact .bind (.mapM (fun a => .map (Validate.normalizeAxisInt_error _ _)) as) fun norm =>
      .ite (.error rfl) (reduceCore_error _ _ _ _)

end COO

theorem elemwiseN_error {α : Type} [Inhabited α] [DecidableEq α] (f : List α → α) (ops : List (Operand α)) :
    Raises (· = .value) (elemwiseN f ops) := by
  unfold elemwiseN
  exact .ite (.error rfl) (.bind (bshapeN_error _) fun shape => .bind (bshapeN_error _) fun nd =>
    .ite (.ite .ok .ok) (.ite .ok (.error rfl)))

namespace GCXS
theorem fromCoo_error {α : Type} (x : COO α) (c : Option (List Nat)) : Raises (· = .value) (fromCoo x c) := by
  unfold fromCoo
  generalize x.shape.length = n
  match n, c with
  | 0, none => exact .ok
  | 0, some _ => exact .error rfl
  | 1, none => exact .ok
  | 1, some _ => exact .error rfl
  | n + 2, none => exact .ok
  | n + 2, some c => exact .ite (.error rfl) (.ite (.error rfl) (.ite (.error rfl) .ok))
end GCXS

theorem convert_error {α : Type} [Add α] [DecidableEq α] (a : SArr α) (f : Fmt) : Raises (· = .value) (a.convert f) := by
  unfold SArr.convert
  cases f with
  | coo => exact .ok
  | gcxs c =>
    cases a with
    | gcxs g => exact .ite .ok (.map (GCXS.fromCoo_error _ _))
    | _ => exact .map (GCXS.fromCoo_error _ _)
  | dok => exact .ok
  | dense => exact .ok

theorem fullSlice_not_ellipsis : fullSlice.isEllipsis = false := rfl

theorem replaceEllipsis_error (n : Nat) (idx : List IxE) : Raises (· = .index) (replaceEllipsis n idx) := by
  unfold replaceEllipsis
  dsimp only
  generalize (List.range idx.length).filter _ = locs
  match locs with
  | [] => exact .ok
  | [_] => exact .ok
  | _ :: _ :: _ => exact .error rfl

theorem replaceEllipsis_ok {n : Nat} {idx idx' : List IxE} (h : replaceEllipsis n idx = .ok idx') :
    ∀ e ∈ idx', e.isEllipsis = false := by
  unfold replaceEllipsis at h
  dsimp only at h
  generalize hl : (List.range idx.length).filter (fun i => (idx.getD i .newaxis).isEllipsis) = locs at h
  -- every position that holds an ellipsis is listed in `locs`
  have hmem : ∀ i (hi : i < idx.length), idx[i].isEllipsis = true → i ∈ locs := by
    intro i hi he
    rw [List.getElem_eq_getD .newaxis] at he
    rw [← hl, List.mem_filter, List.mem_range]
    exact ⟨hi, he⟩
  intro e he
  rw [← Bool.not_eq_true]
  intro hb
  match locs, h, hmem with
  | [], h, hmem =>
    cases h
    obtain ⟨i, hi, rfl⟩ := List.getElem_of_mem he
    exact absurd (hmem i hi hb) List.not_mem_nil
  | [loc], h, hmem =>
    cases h
    rcases List.mem_append.mp he with he | he
    · rcases List.mem_append.mp he with he | he
      · obtain ⟨i, hi, rfl⟩ := List.mem_take_iff_getElem.mp he
        have := List.mem_singleton.mp (hmem i (by omega) hb)
        omega
      · rw [List.eq_of_mem_replicate he] at hb
        cases hb
    · obtain ⟨i, hi, rfl⟩ := List.mem_drop_iff_getElem.mp he
      have := List.mem_singleton.mp (hmem (loc + 1 + i) (by omega) hb)
      omega
  | _ :: _ :: _, h, _ => cases h

theorem normalizeInt_error (i dim : Int) : Raises (· = .index) (normalizeInt i dim) := by
  rw [normalizeInt_eq]
  exact .ite .ok (.error rfl)

theorem normalizeEntry_error (en : IxE) (dim : Int) (hne : en.isEllipsis = false) :
    Raises (· = .index) (normalizeEntry en dim) := by
  unfold normalizeEntry
  cases en with
  | int i =>
    dsimp only
    cases h : normalizeInt i dim with
    | ok v => exact .ok
    | error er => exact .error (normalizeInt_error _ _ _ h)
  | slice a b c => exact .ok
  | arr xs => exact .ite (.error rfl) .ok
  | barr bs => exact .ite (.error rfl) .ok
  | newaxis => exact .ok
  | ellipsis => cases hne

theorem normalizeIndex_go_error : ∀ (es : List IxE) (dims : List Nat), (∀ en ∈ es, en.isEllipsis = false) →
    Raises (· = .index) (normalizeIndex.go es dims)
  | [], _, _ => by
    unfold normalizeIndex.go
    exact .ok
  | en :: rest, dims, hne => by
    have hrest : ∀ x ∈ rest, x.isEllipsis = false := fun x hx => hne x (List.mem_cons_of_mem _ hx)
    unfold normalizeIndex.go
    cases en with
    | newaxis => exact .bind (normalizeIndex_go_error rest dims hrest) fun _ => .ok
    | _ =>
      cases dims with
      | nil => exact .error rfl
      | cons d ds =>
        exact .bind (normalizeEntry_error _ _ (hne _ List.mem_cons_self)) fun _ => .bind (normalizeIndex_go_error rest ds hrest) fun _ => .ok

theorem normalizeIndex_error (idx : List IxE) (shape : List Nat) : Raises (· = .index) (normalizeIndex idx shape) := by
  unfold normalizeIndex
  cases hr : replaceEllipsis shape.length idx with
  | error e => exact .error (replaceEllipsis_error _ _ _ hr)
  | ok idx' =>
    refine .ite (.error rfl) (normalizeIndex_go_error _ _ ?_)
    intro en hen
    rcases List.mem_append.mp hen with hen | hen
    · exact replaceEllipsis_ok hr _ hen
    · rw [List.eq_of_mem_replicate hen]
      exact fullSlice_not_ellipsis

theorem COO.getitem_error {α : Type} (x : COO α) (idx : List IxE) : Raises (· = .index) (x.getitem idx) := by
  unfold COO.getitem
  exact .bind (normalizeIndex_error _ _) fun _ => .ok

end SparseV
