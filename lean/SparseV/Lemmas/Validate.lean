/-
  SparseV.Lemmas.Validate — facts about the validation models (property C18).
-/
import SparseV.Model.Validate
import SparseV.Model.Elemwise
import SparseV.Lemmas.Gen.Axis
namespace SparseV

/-- `m` fails, if at all, with an error in `S`: the form of every "rejected cleanly" statement of property C18 -/
def Raises {α : Type} (S : Err → Prop) (m : Except Err α) : Prop := ∀ e, m = .error e → S e

namespace Raises
variable {α β γ : Type} {S T : Err → Prop}

theorem ok {a : α} : Raises S (.ok a) := fun _ h => nomatch h

theorem error {e : Err} (h : S e) : Raises S (.error e : Except Err α) := fun _ h' => Except.error.inj h' ▸ h

theorem mono {m : Except Err α} (h : Raises S m) (hST : ∀ e, S e → T e) : Raises T m := fun e he => hST e (h e he)

theorem dite {c : Prop} [Decidable c] {a b : Except Err α} (ha : c → Raises S a) (hb : ¬ c → Raises S b) :
    Raises S (if c then a else b) := by
  split
  · exact ha ‹_›
  · exact hb ‹_›

theorem ite {c : Prop} [Decidable c] {a b : Except Err α} (ha : Raises S a) (hb : Raises S b) :
    Raises S (if c then a else b) :=
  dite (fun _ => ha) (fun _ => hb)

theorem bind {m : Except Err α} {k : α → Except Err β} (hm : Raises S m) (hk : ∀ a, Raises S (k a)) :
    Raises S (m >>= k) := by
  cases m with
  | error e => exact .error (hm e rfl)
  | ok a => exact hk a

theorem map {f : α → β} {m : Except Err α} (hm : Raises S m) : Raises S (m.map f) := by
  cases m with
  | error e => exact .error (hm e rfl)
  | ok a => exact ok

theorem foldlM {f : β → γ → Except Err β} (hf : ∀ b c, Raises S (f b c)) : ∀ (l : List γ) (b : β), Raises S (l.foldlM f b)
  | [], _ => ok
  | c :: l, b => by
    rw [List.foldlM_cons]
    exact bind (hf b c) (foldlM hf l)

theorem mapM {f : β → Except Err γ} (hf : ∀ b, Raises S (f b)) : ∀ (l : List β), Raises S (l.mapM f)
  | [] => by
    rw [List.mapM_nil]
    exact ok
  | b :: l => by
    rw [List.mapM_cons]
    exact bind (hf b) fun _ => bind (mapM hf l) fun _ => ok

end Raises

/-- `m` succeeds exactly when `P` holds: the other half of the "rejects iff NumPy rejects" statements of property C18 -/
def Accepts {α : Type} (m : Except Err α) (P : Prop) : Prop := (∃ r, m = .ok r) ↔ P

namespace Accepts
variable {α : Type} {P Q : Prop}

theorem ok {r : α} (h : P) : Accepts (.ok r) P := ⟨fun _ => h, fun _ => ⟨r, rfl⟩⟩

theorem error {e : Err} (h : ¬ P) : Accepts (.error e : Except Err α) P := ⟨fun ⟨_, h'⟩ => (nomatch h'), fun hp => absurd hp h⟩

theorem dite {c : Prop} [Decidable c] {a b : Except Err α} (ha : c → Accepts a P) (hb : ¬ c → Accepts b P) :
    Accepts (if c then a else b) P := by
  split
  · exact ha ‹_›
  · exact hb ‹_›

theorem congr {m : Except Err α} (h : Accepts m P) (hPQ : P ↔ Q) : Accepts m Q := h.trans hPQ

theorem unit {m : Except Err Unit} (h : Accepts m P) : m = .ok () ↔ P := ⟨fun hm => h.mp ⟨_, hm⟩, fun hp => match h.mpr hp with | ⟨(), hm⟩ => hm⟩

end Accepts

theorem ite_ok_error_spec {α : Type} {c : Prop} [Decidable c] {v : α} {E : Err} :
    ((if c then .ok v else .error E : Except Err α) = .error E ↔ ¬ c) ∧
    Raises (· = E) (if c then .ok v else .error E : Except Err α) := by
  refine ⟨?_, .ite .ok (.error rfl)⟩
  by_cases h : c
  · rw [if_pos h]
    exact ⟨nofun, fun hn => absurd h hn⟩
  · rw [if_neg h]
    exact ⟨fun _ => h, fun _ => rfl⟩

namespace Validate

/-- NumPy's normalisation of an in-range axis -/
def normAxis (ndim : Int) (a : Int) : Int := if a < 0 then a + ndim else a

theorem normalizeAxisInt_eq (axis ndim : Int) :
    Gen.normalizeAxisInt axis ndim =
      (if -ndim ≤ axis ∧ axis < ndim then .ok (normAxis ndim axis) else .error Err.value) := by
  rw [Gen.normalizeAxisInt_eq]
  rfl

theorem normalizeAxisInt_error (axis ndim : Int) : Raises (· = .value) (Gen.normalizeAxisInt axis ndim) := by
  rw [normalizeAxisInt_eq]
  exact .ite .ok (.error rfl)

theorem normalizeAxes_eq : ∀ (as : List Int) (ndim : Int),
    normalizeAxes as ndim =
      if ∀ a ∈ as, -ndim ≤ a ∧ a < ndim then .ok (as.map (normAxis ndim)) else .error Err.value
  | [], _ => by
    rw [if_pos (fun _ h => nomatch h)]
    rfl
  | a :: as, ndim => by
    have hcons : (∀ x ∈ a :: as, -ndim ≤ x ∧ x < ndim) ↔ (-ndim ≤ a ∧ a < ndim) ∧ ∀ x ∈ as, -ndim ≤ x ∧ x < ndim :=
      List.forall_mem_cons
    rw [normalizeAxes, normalizeAxisInt_eq, normalizeAxes_eq as]
    by_cases h : -ndim ≤ a ∧ a < ndim
    · by_cases hs : ∀ a ∈ as, -ndim ≤ a ∧ a < ndim
      · rw [if_pos h, if_pos hs, if_pos (hcons.mpr ⟨h, hs⟩)]
        rfl
      · rw [if_pos h, if_neg hs, if_neg (fun hh => hs (hcons.mp hh).2)]
    · rw [if_neg h, if_neg (fun hh => h (hcons.mp hh).1)]

theorem iprod_map_ofNat : ∀ (l : List Nat), iprod (l.map Int.ofNat) = (prod l : Nat)
  | [] => rfl
  | d :: ds => by simp [iprod, prod, iprod_map_ofNat ds]

theorem iprod_nonneg : ∀ (l : List Int), (∀ d ∈ l, 0 ≤ d) → 0 ≤ iprod l
  | [], _ => by decide
  | d :: ds, h => Int.mul_nonneg (h d List.mem_cons_self) (iprod_nonneg ds fun x hx => h x (List.mem_cons_of_mem _ hx))

theorem iprod_subst (e : Int) : ∀ (shape : List Int),
    iprod (shape.map fun d => if d == -1 then e else d) =
      e ^ (shape.filter (· == -1)).length * iprod (shape.filter (· != -1))
  | [] => by simp [iprod]
  | d :: ds => by
    rw [List.map_cons, iprod, iprod_subst e ds]
    by_cases h : d = -1
    · subst h
      rw [List.filter_cons_of_pos (by decide), List.filter_cons_of_neg (by decide), List.length_cons, Int.pow_succ,
        if_pos (by decide), Int.mul_left_comm, Int.mul_assoc]
    · have h1 : (d == -1) = false := by simpa using h
      rw [List.filter_cons_of_neg (by simp [h1]), List.filter_cons_of_pos (by simp [bne, h1]), iprod, if_neg (by simp [h1]),
        Int.mul_left_comm]

theorem filter_ne_of_no_unknown (shape : List Int) (h : (shape.filter (· == -1)).length = 0) : shape.filter (· != -1) = shape := by
  rw [List.length_eq_zero_iff, List.filter_eq_nil_iff] at h
  exact List.filter_eq_self.mpr fun d hd => by simpa using h d hd

theorem not_any_unknown_iff (shape : List Int) : ¬ (shape.any (· == -1) = true) ↔ (shape.filter (· == -1)).length = 0 := by
  rw [List.length_eq_zero_iff, List.filter_eq_nil_iff, List.any_eq_true]
  exact ⟨fun h d hd hb => h ⟨d, hd, hb⟩, fun h ⟨d, hd, hb⟩ => h d hd hb⟩

theorem not_any_neg_iff (sh : List Int) : ¬ (sh.any (· < 0) = true) ↔ ∀ d ∈ sh, 0 ≤ d := by
  simp

theorem reshapeFinish_error (size : Int) (s : List Int) : Raises (· = .value) (reshapeFinish size s) :=
  .ite (.error rfl) (.ite (.error rfl) .ok)

theorem reshapeFinish_accepts (size : Int) (s : List Int) :
    Accepts (reshapeFinish size s) (size = iprod s ∧ ∀ d ∈ s, 0 ≤ d) :=
  .dite (fun h => .error fun hp => h hp.1) fun h =>
    .dite (fun hneg => .error fun hp => (not_any_neg_iff s).mpr hp.2 hneg) fun hneg =>
      .ok ⟨Classical.not_not.mp h, (not_any_neg_iff s).mp hneg⟩

theorem reshapeShape_error (old : List Nat) (shape : List Int) : Raises (· = .value) (reshapeShape old shape) :=
  .ite .ok (.ite (.ite (.error rfl) (.ite (.error rfl) (reshapeFinish_error _ _))) (reshapeFinish_error _ _))

theorem reshapeShape_accepts1 (old : List Nat) (shape : List Int) :
    Accepts (reshapeShape old shape) (npReshapeOk1 old shape) := by
  unfold reshapeShape npReshapeOk1
  dsimp only
  refine .dite (fun hsame => .ok ?_) fun _ => .dite (fun hany => ?_) fun hany => ?_
  · -- the shape is unchanged
    have hnn : ∀ d ∈ shape, 0 ≤ d := by
      rw [← hsame]
      intro d hd
      obtain ⟨n, _, rfl⟩ := List.mem_map.mp hd
      exact Int.natCast_nonneg n
    have hnone : shape.filter (· == -1) = [] := by
      rw [List.filter_eq_nil_iff]
      intro d hd
      have := hnn d hd
      simp
      omega
    refine ⟨fun d hd => hnn d (List.mem_filter.mp hd).1, Or.inl ⟨by rw [hnone]; rfl, ?_⟩⟩
    rw [← hsame, iprod_map_ofNat]
  · have hpos : (shape.filter (· == -1)).length ≠ 0 := fun h => (not_any_unknown_iff shape).mpr h hany
    refine .dite (fun hsev => .error ?_) fun hsev => ?_
    · -- several unknown extents
      rintro ⟨_, h | h⟩ <;> omega
    have hlen : (shape.filter (· == -1)).length = 1 := by omega
    refine .dite (fun hk => .error ?_) fun hk => (reshapeFinish_accepts _ _).congr ?_
    · -- the known extents multiply to 0 or do not divide the size
      rintro ⟨_, h | ⟨_, hne, hmod⟩⟩
      · omega
      · rcases hk with hk | hk
        · exact hne hk
        · exact hk (Int.fmod_eq_zero_of_dvd (Int.dvd_of_emod_eq_zero hmod))
    · -- exactly one unknown extent, filled in with `size // known`
      have hp : iprod (shape.filter (· != -1)) ≠ 0 := fun h => hk (Or.inl h)
      have hm : Int.fmod ((prod old : Nat) : Int) (iprod (shape.filter (· != -1))) = 0 :=
        Classical.not_not.mp fun h => hk (Or.inr h)
      rw [iprod_subst, hlen, Int.pow_one]
      constructor
      · rintro ⟨_, hall⟩
        refine ⟨fun d hd => ?_, Or.inr ⟨rfl, hp, Int.emod_eq_zero_of_dvd (Int.dvd_of_fmod_eq_zero hm)⟩⟩
        have hmem := List.mem_filter.mp hd
        have hne : (d == -1) = false := by simpa using hmem.2
        have := hall (if (d == -1) = true then _ else d) (List.mem_map.mpr ⟨d, hmem.1, rfl⟩)
        simpa [hne] using this
      · rintro ⟨hrest, _⟩
        have hpn : 0 ≤ iprod (shape.filter (· != -1)) := iprod_nonneg _ hrest
        refine ⟨(Int.fdiv_mul_cancel_of_fmod_eq_zero hm).symm, fun d hd => ?_⟩
        obtain ⟨d0, hd0, rfl⟩ := List.mem_map.mp hd
        split
        · rw [Int.fdiv_eq_ediv_of_nonneg _ hpn]
          exact Int.ediv_nonneg (Int.natCast_nonneg _) hpn
        · rename_i hne
          exact hrest d0 (List.mem_filter.mpr ⟨hd0, by simpa using hne⟩)
  · -- no unknown extent
    have hu0 := (not_any_unknown_iff shape).mp hany
    refine (reshapeFinish_accepts _ _).congr ?_
    rw [filter_ne_of_no_unknown shape hu0]
    constructor
    · rintro ⟨a, b⟩
      exact ⟨b, Or.inl ⟨hu0, a.symm⟩⟩
    · rintro ⟨b, h | h⟩
      · exact ⟨h.2.symm, b⟩
      · omega

theorem filter_neg_eq (shape : List Int) (h : ¬ OtherNegative shape) :
    shape.filter (fun d => decide (d < 0)) = shape.filter (· == -1) ∧
    shape.filter (fun d => decide (0 ≤ d)) = shape.filter (· != -1) := by
  have hall : ∀ d ∈ shape, -1 ≤ d := fun d hd => Int.not_lt.mp fun hlt => h ⟨d, hd, hlt⟩
  constructor <;>
  · apply List.filter_congr
    intro d hd
    have := hall d hd
    rw [Bool.eq_iff_iff]
    simp only [decide_eq_true_eq, beq_iff_eq, bne_iff_ne]
    omega

theorem npReshapeOk_iff1 (old : List Nat) (shape : List Int) (h : ¬ OtherNegative shape) :
    npReshapeOk old shape ↔ npReshapeOk1 old shape := by
  unfold npReshapeOk npReshapeOk1
  obtain ⟨e1, e2⟩ := filter_neg_eq shape h
  simp only [e1, e2]
  have hrest : ∀ d ∈ shape.filter (· != -1), 0 ≤ d := by
    intro d hd
    rw [← e2] at hd
    simpa using (List.mem_filter.mp hd).2
  constructor
  · intro hh; exact ⟨hrest, hh⟩
  · intro hh; exact hh.2

theorem npReshapeOk1_no_other_negative (old : List Nat) (shape : List Int) (h : npReshapeOk1 old shape) : ¬ OtherNegative shape := by
  rintro ⟨d, hd, hlt⟩
  have hne : (d != -1) = true := by simp; omega
  have := h.1 d (List.mem_filter.mpr ⟨hd, hne⟩)
  omega

theorem reshapeShape_spec (old : List Nat) (shape : List Int) :
    ((∃ s, reshapeShape old shape = .ok s) ↔ npReshapeOk old shape ∧ ¬ OtherNegative shape) ∧
    (∀ e, reshapeShape old shape = .error e → e = Err.value) := by
  refine ⟨(reshapeShape_accepts1 old shape).congr ⟨fun h => ?_, fun ⟨h, hn⟩ => (npReshapeOk_iff1 old shape hn).mp h⟩,
    reshapeShape_error old shape⟩
  have hn := npReshapeOk1_no_other_negative old shape h
  exact ⟨(npReshapeOk_iff1 old shape hn).mpr h, hn⟩

theorem cooCtor_eq (rows cols n : Nat) (sh : List Int) :
    cooCtor rows cols 1 n (some sh) =
      if sh.any (· < 0) then .error .value
      else if sh ≠ [] ∧ rows * cols = 0 then (if n ≠ 0 then .error .value else .ok (sh.map Int.toNat))
      else if n ≠ cols then .error .value
      else if sh.length ≠ rows then .error .value
      else .ok (sh.map Int.toNat) := by
  unfold cooCtor
  by_cases hz : sh ≠ [] ∧ rows * cols = 0
  · simp [hz]
  · simp only [hz, if_false]
    simp

theorem cooCtor_error (rows cols dn n : Nat) (shape : Option (List Int)) :
    Raises (· = .value) (cooCtor rows cols dn n shape) := by
  unfold cooCtor
  refine .ite (.error rfl) ?_
  cases shape with
  | none => exact .error rfl
  | some sh => exact .ite (.error rfl) (.ite (.error rfl) (.ite (.error rfl) .ok))

theorem cooCtor_accepts (rows cols n : Nat) (sh : List Int) :
    Accepts (cooCtor rows cols 1 n (some sh)) (ctorContract rows cols n sh) := by
  rw [cooCtor_eq]
  unfold ctorContract
  refine .dite (fun hneg => .error fun h => (not_any_neg_iff sh).mpr h.1 hneg) fun hneg => ?_
  have hall := (not_any_neg_iff sh).mp hneg
  refine .dite (fun hz => ?_) fun hz => ?_
  · -- the coordinates were replaced by `(len(shape), 0)`: accepted iff there are no data
    refine .dite (fun hn => .error ?_) fun hn => .ok ⟨hall, .inl ⟨hz.2, hz.1, by omega⟩⟩
    rintro ⟨_, ⟨_, _, h0⟩ | ⟨hc, hr⟩⟩
    · exact hn h0
    · have hlen : sh.length ≠ 0 := fun h => hz.1 (List.length_eq_zero_iff.mp h)
      rcases Nat.mul_eq_zero.mp hz.2 with h | h <;> omega
  · refine .dite (fun hn => .error ?_) fun hn => .dite (fun hl => .error ?_) fun hl => .ok ⟨hall, .inr ⟨by omega, by omega⟩⟩
    · rintro ⟨_, ⟨h1, h2, _⟩ | ⟨hc, _⟩⟩
      · exact hz ⟨h2, h1⟩
      · exact hn hc
    · rintro ⟨_, ⟨h1, h2, _⟩ | ⟨_, hr⟩⟩
      · exact hz ⟨h2, h1⟩
      · exact hl hr

theorem nondecreasing_iff_pairwise : ∀ (l : List Int), nondecreasing l = true ↔ l.Pairwise (· ≤ ·)
  | [] => by simp [nondecreasing]
  | [a] => by simp [nondecreasing]
  | a :: b :: t => by
    rw [nondecreasing, Bool.and_eq_true, decide_eq_true_eq, nondecreasing_iff_pairwise (b :: t), List.pairwise_cons (l := b :: t)]
    -- `a ≤ b` and `b` below the rest put `a` below all of `b :: t`
    refine and_congr_left fun hp => ⟨fun hab x hx => ?_, fun h => h b List.mem_cons_self⟩
    rcases List.mem_cons.mp hx with rfl | hx
    · exact hab
    · exact Int.le_trans hab ((List.pairwise_cons.mp hp).1 x hx)

theorem not_any_outside_iff (l : List Int) (n : Int) :
    ¬ (l.any (fun v => decide (v < 0 ∨ v ≥ n)) = true) ↔ ∀ v ∈ l, 0 ≤ v ∧ v < n := by
  simp

theorem checkCompressedAxes_error (nd : Nat) (c : Option (List Int)) : Raises (· = .value) (checkCompressedAxes nd c) := by
  unfold checkCompressedAxes
  cases c with
  | none => exact .ok
  | some c => exact .ite (.error rfl) (.ite (.error rfl) (.ite (.error rfl) (.ite (.error rfl) .ok)))

/-- the `TypeError` is that of iterating `compressed_axes=None` for an array with two or more axes -/
theorem gcxsCtor_error (dn dataLen : Nat) (indices indptr : List Int) (shape caxes : Option (List Int)) :
    Raises (fun e => e = Err.value ∨ (e = Err.type ∧ caxes = none ∧ ∃ sh, shape = some sh ∧ 2 ≤ sh.length))
      (gcxsCtor dn dataLen indices indptr shape caxes) := by
  have val {β : Type} : Raises (fun e => e = Err.value ∨ (e = Err.type ∧ caxes = none ∧ ∃ sh, shape = some sh ∧ 2 ≤ sh.length))
      (.error .value : Except Err β) :=
    .error (.inl rfl)
  unfold gcxsCtor
  cases shape with
  | none => exact val
  | some sh =>
    dsimp only
    cases hc : checkCompressedAxes sh.length caxes with
    | error e' => exact .error (.inl (checkCompressedAxes_error _ _ _ hc))
    | ok u =>
      cases u
      -- the `TypeError` branch is reached only past the tests `len(shape) = 0` and `len(shape) = 1`
      refine .ite val (.ite val (.dite (fun _ => .ok) fun h0 => .ite val (.dite (fun _ => .ite val .ok) fun h1 => ?_)))
      cases caxes with
      | none => exact .error (.inr ⟨rfl, rfl, sh, rfl, by omega⟩)
      | some c => exact .ite val (.ite val (.ite val (.ite val .ok)))

namespace gcxsRows
variable {indices indptr sh c : List Int} (h : gcxsRows indices indptr sh (some c))
include h

theorem indptr_len : (indptr.length : Int) = compressedExtent sh c + 1 := h.1

theorem head : indptr.head? = some 0 := h.2.1

theorem last : indptr.getLast? = some (indices.length : Int) := h.2.2.1

theorem mono : indptr.Pairwise (· ≤ ·) := h.2.2.2.1

theorem in_range : ∀ v ∈ indices, 0 ≤ v ∧ v < uncompressedExtent sh c := h.2.2.2.2

end gcxsRows

namespace gcxsContract
variable {dataLen : Nat} {indices indptr sh : List Int} {caxes : Option (List Int)}
  (h : gcxsContract dataLen indices indptr sh caxes)
include h

theorem shape_nonneg : ∀ d ∈ sh, 0 ≤ d := h.1

theorem axes_ok : checkCompressedAxes sh.length caxes = .ok () := h.2.1

theorem zero_dim (h0 : sh.length = 0) : dataLen = 0 ∧ indices = [] := h.2.2.1 h0

theorem data_len (h1 : 1 ≤ sh.length) : dataLen = indices.length := h.2.2.2.1 h1

theorem one_dim (h1 : sh.length = 1) : ∀ v ∈ indices, 0 ≤ v ∧ v < sh.getD 0 0 := h.2.2.2.2.1 h1

theorem rows (h2 : 2 ≤ sh.length) : gcxsRows indices indptr sh caxes := h.2.2.2.2.2 h2

end gcxsContract

theorem gcxsCtor_spec (dataLen : Nat) (indices indptr sh : List Int) (caxes : Option (List Int))
    (hz : ¬ ExcludedZeroDim dataLen indices sh) :
    gcxsCtor 1 dataLen indices indptr (some sh) caxes = .ok () ↔ gcxsContract dataLen indices indptr sh caxes := by
  refine Accepts.unit ?_
  unfold gcxsCtor
  dsimp only
  cases hc : checkCompressedAxes sh.length caxes with
  | error e => exact .error fun h => nomatch hc.symm.trans h.axes_ok
  | ok u =>
    cases u
    refine .dite (fun h => absurd rfl h) fun _ => .dite (fun hs => .error fun h => (not_any_neg_iff sh).mpr h.shape_nonneg hs) fun hs => ?_
    have hall := (not_any_neg_iff sh).mp hs
    refine .dite (fun h0 => .ok ?_) fun h0 => .dite (fun hd => .error fun h => hd (h.data_len (by omega))) fun hd => ?_
    · -- 0-d: outside the excluded region nothing is stored
      have hd : dataLen = 0 ∧ indices = [] := Classical.not_not.mp fun hn => hz ⟨List.length_eq_zero_iff.mp h0, hn⟩
      exact ⟨hall, hc, fun _ => hd, fun h => absurd h (by omega), fun h => absurd h (by omega), fun h => absurd h (by omega)⟩
    have hd := Classical.not_not.mp hd
    refine .dite (fun h1 => ?_) fun h1 => ?_
    · exact .dite (fun hi => .error fun h => (not_any_outside_iff _ _).mpr (h.one_dim h1) hi) fun hi =>
        .ok ⟨hall, hc, fun h => absurd h h0, fun _ => hd, fun _ => (not_any_outside_iff _ _).mp hi, fun h => absurd h (by omega)⟩
    · have h2 : 2 ≤ sh.length := by omega
      cases caxes with
      | none => exact .error fun h => h.rows h2
      | some c =>
        refine .dite (fun hl => .error fun h => hl (h.rows h2).indptr_len) fun hl =>
          .dite (fun he => .error fun h => ?_) fun he =>
          .dite (fun hn => .error fun h => hn ((nondecreasing_iff_pairwise _).mpr (h.rows h2).mono)) fun hn =>
          .dite (fun hi => .error fun h => (not_any_outside_iff _ _).mpr (h.rows h2).in_range hi) fun hi => .ok ?_
        · rcases he with he | he
          · exact he (h.rows h2).head
          · exact he (h.rows h2).last
        · exact ⟨hall, hc, fun h => absurd h h0, fun _ => hd, fun h => absurd h h1, fun _ =>
            ⟨Classical.not_not.mp hl, Classical.not_not.mp fun h => he (.inl h), Classical.not_not.mp fun h => he (.inr h),
              (nondecreasing_iff_pairwise _).mp (Classical.not_not.mp hn), (not_any_outside_iff _ _).mp hi⟩⟩

theorem gcxsCtor_accepts_contract (dataLen : Nat) (indices indptr sh : List Int) (caxes : Option (List Int))
    (h : gcxsContract dataLen indices indptr sh caxes) : gcxsCtor 1 dataLen indices indptr (some sh) caxes = .ok () := by
  refine (gcxsCtor_spec dataLen indices indptr sh caxes ?_).mpr h
  rintro ⟨hnil, hno⟩
  exact hno (h.zero_dim (by rw [hnil]; rfl))

/-- no row slice `indices[indptr[i] : indptr[i+1]]` reaches outside the array (the kernels read these slices
without bounds checks) -/
theorem indptr_in_bounds (p : List Int) (n : Int) (hh : p.head? = some 0) (hl : p.getLast? = some n)
    (hp : p.Pairwise (· ≤ ·)) : ∀ x ∈ p, 0 ≤ x ∧ x ≤ n := by
  intro x hx
  constructor
  · obtain ⟨t, rfl⟩ := List.head?_eq_some_iff.mp hh
    rcases List.mem_cons.mp hx with rfl | hx
    · exact Int.le_refl _
    · exact (List.pairwise_cons.mp hp).1 x hx
  · obtain ⟨t, rfl⟩ := List.getLast?_eq_some_iff.mp hl
    rcases List.mem_append.mp hx with hx | hx
    · exact (List.pairwise_append.mp hp).2.2 x hx n (List.mem_singleton.mpr rfl)
    · exact Int.le_of_eq (List.mem_singleton.mp hx)

end Validate
end SparseV
