/-
  SparseV.Lemmas.Rewrite — the generic shape of a coordinate-rewriting operation:
  entries ↦ (optionally sort) (`rewrite g` entries); here the sorted forms and the total case `mapIdx`.
-/
import SparseV.Lemmas.Canonical
namespace SparseV
namespace COO
variable {α : Type}

theorem mem_rewrite {g : Idx → Option Idx} {es : List (Idx × α)} {e' : Idx × α} :
    e' ∈ rewrite g es ↔ ∃ e ∈ es, ∃ k, g e.1 = some k ∧ (k, e.2) = e' := by
  simp only [rewrite, List.mem_filterMap, Option.map_eq_some_iff]

theorem keys_eq_keysOf (x : COO α) : x.keys = keysOf x.entries := rfl

theorem rewrite_sort_lookup (shape : List Nat) (es : List (Idx × α)) (d : α) (g : Idx → Option Idx)
    (h : Idx → Idx) (j : Idx) (hnd : (keysOf es).Nodup)
    (hinv : ∀ e ∈ es, ∀ j', g e.1 = some j' → h j' = e.1) (hj : g (h j) = some j) :
    lookup (sortEntries shape (rewrite g es)) d j = lookup es d (h j) := by
  rw [lookup_sortEntries shape _ d j (rewrite_nodup es g h hinv hnd)]
  exact rewrite_lookup es d g h j hinv hj

theorem sortEntries_rewrite_sortedLin (shape : List Nat) (es : List (Idx × α)) (g : Idx → Option Idx)
    (h : Idx → Idx) (hinv : ∀ e ∈ es, ∀ j', g e.1 = some j' → h j' = e.1) (hnd : (keysOf es).Nodup)
    (hin : ∀ e ∈ es, ∀ j', g e.1 = some j' → InB j' shape) :
    SortedLin shape (sortEntries shape (rewrite g es)) := by
  refine sortEntries_sortedLin shape _ (rewrite_nodup es g h hinv hnd) fun e' he' => ?_
  obtain ⟨e, he, k, hk, rfl⟩ := mem_rewrite.mp he'
  exact hin e he k hk

theorem mapIdx_nodup (es : List (Idx × α)) (f h : Idx → Idx) (hinv : ∀ e ∈ es, h (f e.1) = e.1)
    (hnd : (keysOf es).Nodup) : (keysOf (mapIdx f es)).Nodup := by
  rw [mapIdx_eq_rewrite]
  exact rewrite_nodup es _ h (fun e he j' hg => by rw [← Option.some.inj hg]; exact hinv e he) hnd

theorem mapIdx_lookup (es : List (Idx × α)) (d : α) (f h : Idx → Idx) (j : Idx)
    (hinv : ∀ e ∈ es, h (f e.1) = e.1) (hj : f (h j) = j) :
    lookup (mapIdx f es) d j = lookup es d (h j) := by
  rw [mapIdx_eq_rewrite]
  exact rewrite_lookup es d _ h j (fun e he j' hg => by rw [← Option.some.inj hg]; exact hinv e he)
    (congrArg some hj)

theorem mapIdx_sort_lookup (shape : List Nat) (es : List (Idx × α)) (d : α) (f h : Idx → Idx) (j : Idx)
    (hnd : (keysOf es).Nodup) (hinv : ∀ e ∈ es, h (f e.1) = e.1) (hj : f (h j) = j) :
    lookup (sortEntries shape (mapIdx f es)) d j = lookup es d (h j) := by
  rw [lookup_sortEntries shape _ d j (mapIdx_nodup es f h hinv hnd)]
  exact mapIdx_lookup es d f h j hinv hj

end COO
end SparseV
