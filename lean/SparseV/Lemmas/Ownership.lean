/-
  The invariant of the ownership model (property C20): reachability computed by the one-pass marking is
  graph reachability, and every command keeps "every buffer an object addresses is owned by an object it
  keeps alive".
-/
import SparseV.Model.Ownership
namespace SparseV
namespace Own

/-- reachable from the program's references along keeps-alive edges -/
inductive Reach (h : Heap) : Nat → Prop
  | root {o : Nat} : o ∈ h.roots → Reach h o
  | step {p o : Nat} : Reach h p → o ∈ (h.obj p).refs → Reach h o

/-- `Path h o w`: `o` keeps `w` alive (reflexive-transitive closure of the edges) -/
inductive Path (h : Heap) : Nat → Nat → Prop
  | refl (o : Nat) : Path h o o
  | step {o p w : Nat} : p ∈ (h.obj o).refs → Path h p w → Path h o w

theorem Reach.path {h : Heap} {o w : Nat} (hr : Reach h o) (hp : Path h o w) : Reach h w := by
  induction hp with
  | refl _ => exact hr
  | step he _ ih => exact ih (Reach.step hr he)

theorem Path.inv {h : Heap} {o w : Nat} (hp : Path h o w) : o = w ∨ ∃ p ∈ (h.obj o).refs, Path h p w := by
  cases hp with
  | refl => exact Or.inl rfl
  | step he hp' => exact Or.inr ⟨_, he, hp'⟩

theorem obj_nil_of_ge (h : Heap) (o : Nat) (ho : h.objs.length ≤ o) : h.obj o = Obj.nil := by
  simp [Heap.obj, List.getD_eq_getElem?_getD, List.getElem?_eq_none ho]

theorem lt_of_refs {h : Heap} {o r : Nat} (hr : r ∈ (h.obj o).refs) : o < h.objs.length :=
  Nat.lt_of_not_le fun hge => by rw [obj_nil_of_ge h o hge] at hr; cases hr

theorem lt_of_owns {h : Heap} {o b : Nat} (hb : b ∈ (h.obj o).owns) : o < h.objs.length :=
  Nat.lt_of_not_le fun hge => by rw [obj_nil_of_ge h o hge] at hb; cases hb

theorem obj_congr {h h' : Heap} (ho : h'.objs = h.objs) (o : Nat) : h'.obj o = h.obj o := by
  unfold Heap.obj; rw [ho]

theorem obj_push_of_lt (h : Heap) (x : Obj) (toks : List Nat) {o : Nat} (ho : o < h.objs.length) :
    (h.push x toks).obj o = h.obj o := by
  simp only [Heap.obj, Heap.push, List.getD_eq_getElem?_getD, List.getElem?_append_left ho]

theorem obj_push_new (h : Heap) (x : Obj) (toks : List Nat) : (h.push x toks).obj h.objs.length = x := by
  simp only [Heap.obj, Heap.push, List.getD_eq_getElem?_getD, List.getElem?_concat_length, Option.getD_some]

theorem obj_push_cases (h : Heap) (x : Obj) (toks : List Nat) (o : Nat) :
    o = h.objs.length ∧ (h.push x toks).obj o = x ∨ (h.push x toks).obj o = h.obj o := by
  rcases Nat.lt_trichotomy o h.objs.length with ho | ho | ho
  · exact Or.inr (obj_push_of_lt h x toks ho)
  · exact Or.inl ⟨ho, ho ▸ obj_push_new h x toks⟩
  · refine Or.inr ((obj_nil_of_ge _ o ?_).trans (obj_nil_of_ge h o (Nat.le_of_lt ho)).symm)
    show (h.objs ++ [x]).length ≤ o
    rw [List.length_append]
    exact ho

theorem markFrom_wanted (objs : List Obj) : ∀ (n : Nat) (wanted : List Nat) (o : Nat), o < n → o ∈ wanted →
    o ∈ markFrom objs n wanted
  | n + 1, wanted, o, hlt, hw => by
    unfold markFrom
    by_cases hc : wanted.contains n = true
    · rw [if_pos hc]
      rcases Nat.lt_or_eq_of_le (Nat.le_of_lt_succ hlt) with h | h
      · exact List.mem_cons_of_mem _ (markFrom_wanted objs n _ o h (List.mem_append_right _ hw))
      · exact h ▸ List.mem_cons_self
    · rw [if_neg hc]
      have hne : o ≠ n := fun e => hc (List.contains_iff_mem.mpr (e ▸ hw))
      exact markFrom_wanted objs n wanted o (Nat.lt_of_le_of_ne (Nat.le_of_lt_succ hlt) hne) hw

theorem markFrom_refs (objs : List Obj) : ∀ (n : Nat) (wanted : List Nat) (p o : Nat), p ∈ markFrom objs n wanted →
    o ∈ (objs.getD p Obj.nil).refs → o < p → o ∈ markFrom objs n wanted
  | 0, _, _, _, hp, _, _ => by cases hp
  | n + 1, wanted, p, o, hp, hr, hlt => by
    unfold markFrom at hp ⊢
    by_cases hc : wanted.contains n = true
    · rw [if_pos hc] at hp ⊢
      apply List.mem_cons_of_mem
      rcases List.mem_cons.mp hp with h | h
      · exact markFrom_wanted objs n _ o (h ▸ hlt) (List.mem_append_left _ (h ▸ hr))
      · exact markFrom_refs objs n _ p o h hr hlt
    · rw [if_neg hc] at hp ⊢
      exact markFrom_refs objs n wanted p o hp hr hlt

theorem markFrom_sound (objs : List Obj) (P : Nat → Prop)
    (hstep : ∀ p o, P p → o ∈ (objs.getD p Obj.nil).refs → P o) :
    ∀ (n : Nat) (wanted : List Nat), (∀ w ∈ wanted, P w) → ∀ o ∈ markFrom objs n wanted, P o
  | 0, _, _, _, h => by cases h
  | n + 1, wanted, hw, o, h => by
    unfold markFrom at h
    split at h
    next hc =>
      have hn : P n := hw n (List.contains_iff_mem.mp hc)
      rcases List.mem_cons.mp h with h | h
      · rw [h]; exact hn
      · refine markFrom_sound objs P hstep n _ ?_ o h
        intro w hw'
        rcases List.mem_append.mp hw' with h1 | h1
        · exact hstep n w hn h1
        · exact hw w h1
    next => exact markFrom_sound objs P hstep n wanted hw o h

structure WF (h : Heap) : Prop where
  /-- every edge points to an older object: what makes the one pass of `markFrom` complete -/
  refs_lt : ∀ o r, r ∈ (h.obj o).refs → r < o
  roots_lt : ∀ r ∈ h.roots, r < h.objs.length
  bufs_lt : ∀ o b, (b ∈ (h.obj o).bufs ∨ b ∈ (h.obj o).owns) → b < h.nbuf
  own_unique : ∀ o1 o2 b, b ∈ (h.obj o1).owns → b ∈ (h.obj o2).owns → o1 = o2
  owns_nodup : ∀ o, (h.obj o).owns.Nodup
  dead_lt : ∀ o ∈ h.dead, o < h.objs.length
  reach_alive : ∀ o, Reach h o → o ∉ h.dead
  freed_owner : ∀ b ∈ h.freed, ∃ w, w ∈ h.dead ∧ b ∈ (h.obj w).owns
  freed_nodup : h.freed.Nodup
  dead_freed : ∀ w ∈ h.dead, ∀ b ∈ (h.obj w).owns, b ∈ h.freed
  keeps_owner : ∀ o b, b ∈ (h.obj o).bufs → ∃ w, Path h o w ∧ b ∈ (h.obj w).owns
  /-- a NumPy array has at most one `base`: `npBase` looks at the first reference only -/
  nd_refs : ∀ o, (h.obj o).kind = .ndarray → (h.obj o).refs.length ≤ 1

theorem WF.empty : WF Heap.empty where
  refs_lt := nofun
  roots_lt := nofun
  bufs_lt := fun _ _ hb => hb.elim nofun nofun
  own_unique := nofun
  owns_nodup := fun _ => List.nodup_nil
  dead_lt := nofun
  reach_alive := nofun
  freed_owner := nofun
  freed_nodup := List.nodup_nil
  dead_freed := nofun
  keeps_owner := nofun
  nd_refs := fun _ _ => Nat.zero_le _

theorem Reach.lt {h : Heap} (hw : WF h) {o : Nat} (hr : Reach h o) : o < h.objs.length := by
  induction hr with
  | root hm => exact hw.roots_lt _ hm
  | step _ he ih => exact Nat.lt_trans (hw.refs_lt _ _ he) ih

theorem mem_reachable_iff {h : Heap} (hw : WF h) (o : Nat) : o ∈ reachable h ↔ Reach h o := by
  constructor
  · intro hm
    exact markFrom_sound h.objs (Reach h) (fun p o hp ho => Reach.step hp ho) _ _ (fun w hw' => Reach.root hw') o hm
  · intro hr
    induction hr with
    | root hm => exact markFrom_wanted h.objs _ _ _ (hw.roots_lt _ hm) hm
    | step _ he ih => exact markFrom_refs h.objs _ _ _ _ ih he (hw.refs_lt _ _ he)

theorem contains_reachable {h : Heap} (hw : WF h) {o : Nat} (hc : (reachable h).contains o = true) : Reach h o :=
  (mem_reachable_iff hw o).mp (List.contains_iff_mem.mp hc)

theorem reach_of_guard {h : Heap} (hw : WF h) {o : Nat} {k : Bool} (hc : ((reachable h).contains o && k) = true) :
    Reach h o ∧ k = true :=
  have hc := Bool.and_eq_true_iff.mp hc
  ⟨contains_reachable hw hc.1, hc.2⟩

theorem Reach.congr {h h' : Heap} {o : Nat} (hr : Reach h' o) (ho : h'.objs = h.objs)
    (hroots : ∀ r ∈ h'.roots, Reach h r) : Reach h o := by
  induction hr with
  | root hm => exact hroots _ hm
  | step _ he ih => exact Reach.step ih (obj_congr ho _ ▸ he)

theorem Path.congr {h h' : Heap} {o w : Nat} (hp : Path h o w) (ho : h'.objs = h.objs) : Path h' o w := by
  induction hp with
  | refl _ => exact Path.refl _
  | step he _ ih => exact Path.step (obj_congr ho _ ▸ he) ih

/-- what a newly created object has to satisfy -/
structure Admissible (h : Heap) (x : Obj) (toks : List Nat) : Prop where
  refs_reach : ∀ r ∈ x.refs, Reach h r
  owns_fresh : ∀ b ∈ x.owns, h.nbuf ≤ b ∧ b < h.nbuf + toks.length
  owns_nodup : x.owns.Nodup
  bufs_kept : ∀ b ∈ x.bufs, b ∈ x.owns ∨ ∃ r ∈ x.refs, ∃ w, Path h r w ∧ b ∈ (h.obj w).owns
  nd_refs : x.kind = .ndarray → x.refs.length ≤ 1

theorem Admissible.fresh (h : Heap) (k : Kind) (om : Bool) (toks : List Nat) :
    Admissible h { kind := k, refs := [], bufs := List.range' h.nbuf toks.length, owns := List.range' h.nbuf toks.length,
                   om := om } toks where
  refs_reach := nofun
  owns_fresh := fun _ hb => List.mem_range'_1.mp hb
  owns_nodup := List.nodup_range'
  bufs_kept := fun _ hb => Or.inl hb
  nd_refs := fun _ => Nat.zero_le _

theorem Admissible.borrowed {h : Heap} {x : Obj} (hown : x.owns = []) (hrefs : ∀ r ∈ x.refs, Reach h r)
    (hbufs : ∀ b ∈ x.bufs, ∃ r ∈ x.refs, ∃ w, Path h r w ∧ b ∈ (h.obj w).owns)
    (hnd : x.kind = .ndarray → x.refs.length ≤ 1) : Admissible h x [] where
  refs_reach := hrefs
  owns_fresh := fun b hb => by rw [hown] at hb; cases hb
  owns_nodup := hown ▸ List.nodup_nil
  bufs_kept := fun b hb => Or.inr (hbufs b hb)
  nd_refs := hnd

theorem push_reach {h : Heap} (hw : WF h) {x : Obj} {toks : List Nat} (ha : Admissible h x toks) {o : Nat}
    (hr : Reach (h.push x toks) o) : o = h.objs.length ∨ Reach h o := by
  induction hr with
  | root hm =>
    rcases List.mem_cons.mp hm with h1 | h1
    · exact Or.inl h1
    · exact Or.inr (Reach.root h1)
  | @step p o _ he ih =>
    rcases ih with h1 | h1
    · rw [h1, obj_push_new] at he
      exact Or.inr (ha.refs_reach _ he)
    · rw [obj_push_of_lt h x toks (Reach.lt hw h1)] at he
      exact Or.inr (Reach.step h1 he)

theorem push_path {h : Heap} {x : Obj} {toks : List Nat} {o w : Nat} (hp : Path h o w) :
    Path (h.push x toks) o w := by
  induction hp with
  | refl _ => exact Path.refl _
  | step he _ ih => exact Path.step (by rw [obj_push_of_lt h x toks (lt_of_refs he)]; exact he) ih

theorem push_WF {h : Heap} (hw : WF h) {x : Obj} {toks : List Nat} (ha : Admissible h x toks) :
    WF (h.push x toks) :=
  have hlen : (h.push x toks).objs.length = h.objs.length + 1 := List.length_append
  have howns : ∀ {w b}, b ∈ (h.obj w).owns → b ∈ ((h.push x toks).obj w).owns := fun hb => by
    rw [obj_push_of_lt h x toks (lt_of_owns hb)]; exact hb
  have hfresh : ∀ {o b}, b ∈ x.owns → b ∉ (h.obj o).owns := fun hb hb' =>
    Nat.not_lt.mpr (ha.owns_fresh _ hb).1 (hw.bufs_lt _ _ (Or.inr hb'))
  have hold : ∀ {w b}, b ∈ (h.obj w).bufs ∨ b ∈ (h.obj w).owns → b < h.nbuf + toks.length := fun hb =>
    Nat.lt_of_lt_of_le (hw.bufs_lt _ _ hb) (Nat.le_add_right _ _)
  { refs_lt := fun o => by
      rcases obj_push_cases h x toks o with ⟨ho, e⟩ | e
      · rw [e, ho]
        exact fun r hr => Reach.lt hw (ha.refs_reach r hr)
      · exact e ▸ hw.refs_lt o
    roots_lt := fun r hr => by
      rw [hlen]
      rcases List.mem_cons.mp hr with h1 | h1
      · exact h1 ▸ Nat.lt_succ_self _
      · exact Nat.lt_succ_of_lt (hw.roots_lt r h1)
    bufs_lt := fun o b => by
      show _ → b < h.nbuf + toks.length
      rcases obj_push_cases h x toks o with ⟨_, e⟩ | e
      · rw [e]
        rintro (hb | hb)
        · rcases ha.bufs_kept b hb with h1 | ⟨_, _, w, _, h1⟩
          · exact (ha.owns_fresh b h1).2
          · exact hold (Or.inr h1)
        · exact (ha.owns_fresh b hb).2
      · exact e ▸ hold
    own_unique := fun o1 o2 b => by
      rcases obj_push_cases h x toks o1 with ⟨l1, e1⟩ | e1
      · rcases obj_push_cases h x toks o2 with ⟨l2, e2⟩ | e2
        · exact fun _ _ => l1.trans l2.symm
        · rw [e1, e2]
          exact fun h1 h2 => absurd h2 (hfresh h1)
      · rcases obj_push_cases h x toks o2 with ⟨_, e2⟩ | e2
        · rw [e1, e2]
          exact fun h1 h2 => absurd h1 (hfresh h2)
        · rw [e1, e2]
          exact hw.own_unique o1 o2 b
    owns_nodup := fun o => by
      rcases obj_push_cases h x toks o with ⟨_, e⟩ | e
      · rw [e]
        exact ha.owns_nodup
      · exact e ▸ hw.owns_nodup o
    dead_lt := fun o ho => hlen ▸ Nat.lt_succ_of_lt (hw.dead_lt o ho)
    reach_alive := fun o hr hd => by
      rcases push_reach hw ha hr with h1 | h1
      · exact Nat.lt_irrefl _ (h1 ▸ hw.dead_lt o hd)
      · exact hw.reach_alive o h1 hd
    freed_owner := fun b hb =>
      let ⟨w, hwd, hwo⟩ := hw.freed_owner b hb
      ⟨w, hwd, howns hwo⟩
    freed_nodup := hw.freed_nodup
    dead_freed := fun w hwd b hb =>
      hw.dead_freed w hwd b (obj_push_of_lt h x toks (hw.dead_lt w hwd) ▸ hb)
    keeps_owner := fun o b => by
      rcases obj_push_cases h x toks o with ⟨_, e⟩ | e
      · rw [e]
        intro hb
        rcases ha.bufs_kept b hb with h1 | ⟨r, hr, w, hp, hwo⟩
        · exact ⟨o, Path.refl o, by rw [e]; exact h1⟩
        · exact ⟨w, Path.step (by rw [e]; exact hr) (push_path hp), howns hwo⟩
      · rw [e]
        intro hb
        obtain ⟨w, hp, hwo⟩ := hw.keeps_owner o b hb
        exact ⟨w, push_path hp, howns hwo⟩
    nd_refs := fun o => by
      rcases obj_push_cases h x toks o with ⟨_, e⟩ | e
      · rw [e]
        exact ha.nd_refs
      · exact e ▸ hw.nd_refs o }

theorem roots_WF {h : Heap} (hw : WF h) (roots : List Nat) (hr : ∀ r ∈ roots, Reach h r) :
    WF { h with roots := roots } :=
  { hw with
    roots_lt := fun r hm => Reach.lt hw (hr r hm)
    reach_alive := fun o hro => hw.reach_alive o (Reach.congr hro rfl hr)
    keeps_owner := fun o b hb =>
      let ⟨w, hp, hwo⟩ := hw.keeps_owner o b hb
      ⟨w, Path.congr hp rfl, hwo⟩ }

theorem finalize_WF {h : Heap} (hw : WF h) (o : Nat) (hlt : o < h.objs.length) (hnr : ¬ Reach h o)
    (hnd : o ∉ h.dead) : WF { h with dead := o :: h.dead, freed := (h.obj o).owns ++ h.freed } :=
  { hw with
    dead_lt := fun p hp => by
      rcases List.mem_cons.mp hp with h1 | h1
      · rw [h1]; exact hlt
      · exact hw.dead_lt p h1
    reach_alive := fun p hp hd => by
      have hp' : Reach h p := Reach.congr hp rfl fun r hr => Reach.root hr
      rcases List.mem_cons.mp hd with h1 | h1
      · exact hnr (h1 ▸ hp')
      · exact hw.reach_alive p hp' h1
    freed_owner := fun b hb => by
      rcases List.mem_append.mp hb with h1 | h1
      · exact ⟨o, List.mem_cons_self, h1⟩
      · obtain ⟨w, hwd, hwo⟩ := hw.freed_owner b h1
        exact ⟨w, List.mem_cons_of_mem _ hwd, hwo⟩
    freed_nodup := by
      -- a buffer of `o` released earlier would have been released by `o` itself, its only owner
      refine List.nodup_append.mpr ⟨hw.owns_nodup o, hw.freed_nodup, fun a ha b hb hab => ?_⟩
      obtain ⟨w, hwd, hwo⟩ := hw.freed_owner b hb
      exact hnd (hw.own_unique o w a ha (hab ▸ hwo) ▸ hwd)
    dead_freed := fun w hwd b hb => by
      rcases List.mem_cons.mp hwd with h1 | h1
      · rw [h1] at hb; exact List.mem_append_left _ hb
      · exact List.mem_append_right _ (hw.dead_freed w h1 b hb)
    keeps_owner := fun p b hb =>
      let ⟨w, hp, hwo⟩ := hw.keeps_owner p b hb
      ⟨w, Path.congr hp rfl, hwo⟩ }

/-- the shape of the object graph (nothing to do with array shapes), fixed when an object is created (objects are
immutable): a view is a view OF a storage and addresses one of its fields; an OWNING storage is the allocation of
its fields; a NON-OWNING storage owns nothing and every field points into one of the source arrays it references;
only a NumPy array that allocated its buffer and an owning storage own anything -/
structure Shape (h : Heap) : Prop where
  view_of : ∀ v, (h.obj v).kind = .view → ∃ s, (h.obj v).refs = [s] ∧ s < v ∧ (h.obj s).kind = .storage ∧
      ∀ b ∈ (h.obj v).bufs, b ∈ (h.obj s).bufs
  owning : ∀ s, (h.obj s).kind = .storage → (h.obj s).om = true → (h.obj s).owns = (h.obj s).bufs
  nonowning : ∀ s, (h.obj s).kind = .storage → (h.obj s).om = false →
      (h.obj s).owns = [] ∧ ∀ b ∈ (h.obj s).bufs, ∃ r ∈ (h.obj s).refs, r < s ∧ b ∈ (h.obj r).bufs
  owner_kind : ∀ w b, b ∈ (h.obj w).owns →
      ((h.obj w).kind = .ndarray ∧ (h.obj w).refs = []) ∨ ((h.obj w).kind = .storage ∧ (h.obj w).om = true)
  array_of : ∀ a, (h.obj a).kind = .array → ∀ s, (h.obj a).refs = [s] → s < a ∧ (h.obj s).kind = .storage

theorem Shape.empty : Shape Heap.empty := ⟨nofun, nofun, nofun, nofun, nofun⟩

theorem Shape.congr {h h' : Heap} (ho : h'.objs = h.objs) (hs : Shape h) : Shape h' := by
  cases h; cases h'; cases ho
  exact ⟨hs.view_of, hs.owning, hs.nonowning, hs.owner_kind, hs.array_of⟩

/-- what a new object has to satisfy for `Shape` -/
structure ShapeOk (h : Heap) (x : Obj) : Prop where
  view_of : x.kind = .view → ∃ s, x.refs = [s] ∧ s < h.objs.length ∧ (h.obj s).kind = .storage ∧ ∀ b ∈ x.bufs, b ∈ (h.obj s).bufs
  owning : x.kind = .storage → x.om = true → x.owns = x.bufs
  nonowning : x.kind = .storage → x.om = false →
      x.owns = [] ∧ ∀ b ∈ x.bufs, ∃ r ∈ x.refs, r < h.objs.length ∧ b ∈ (h.obj r).bufs
  owner_kind : ∀ b ∈ x.owns, (x.kind = .ndarray ∧ x.refs = []) ∨ (x.kind = .storage ∧ x.om = true)
  array_of : x.kind = .array → ∀ s, x.refs = [s] → s < h.objs.length ∧ (h.obj s).kind = .storage

theorem push_Shape {h : Heap} (hs : Shape h) {x : Obj} {toks : List Nat} (hx : ShapeOk h x) : Shape (h.push x toks) :=
  -- the other objects a field speaks of are older than the one it is about, hence objects of `h`
  have hold : ∀ {s}, s < h.objs.length → (h.push x toks).obj s = h.obj s := obj_push_of_lt h x toks
  { view_of := fun v => by
      rcases obj_push_cases h x toks v with ⟨hl, e⟩ | e
      · rw [e]
        intro hv
        obtain ⟨s, h1, h2, h3, h4⟩ := hx.view_of hv
        exact ⟨s, h1, hl ▸ h2, hold h2 ▸ h3, hold h2 ▸ h4⟩
      · rw [e]
        intro hv
        obtain ⟨s, h1, h2, h3, h4⟩ := hs.view_of v hv
        have hl : s < h.objs.length := Nat.lt_trans h2 (lt_of_refs (h1 ▸ List.mem_singleton_self s))
        exact ⟨s, h1, h2, hold hl ▸ h3, hold hl ▸ h4⟩
    owning := fun s => by
      rcases obj_push_cases h x toks s with ⟨hl, e⟩ | e
      · rw [e]
        exact hx.owning
      · exact e ▸ hs.owning s
    nonowning := fun s => by
      rcases obj_push_cases h x toks s with ⟨hl, e⟩ | e
      · rw [e]
        intro h1 h2
        refine ⟨(hx.nonowning h1 h2).1, fun b hb => ?_⟩
        obtain ⟨r, hr, hlt, hbr⟩ := (hx.nonowning h1 h2).2 b hb
        exact ⟨r, hr, hl ▸ hlt, hold hlt ▸ hbr⟩
      · rw [e]
        intro h1 h2
        refine ⟨(hs.nonowning s h1 h2).1, fun b hb => ?_⟩
        obtain ⟨r, hr, hlt, hbr⟩ := (hs.nonowning s h1 h2).2 b hb
        exact ⟨r, hr, hlt, hold (Nat.lt_trans hlt (lt_of_refs hr)) ▸ hbr⟩
    owner_kind := fun w => by
      rcases obj_push_cases h x toks w with ⟨hl, e⟩ | e
      · rw [e]
        exact hx.owner_kind
      · exact e ▸ hs.owner_kind w
    array_of := fun a => by
      rcases obj_push_cases h x toks a with ⟨hl, e⟩ | e
      · rw [e]
        intro ha s hr
        obtain ⟨h1, h2⟩ := hx.array_of ha s hr
        exact ⟨hl ▸ h1, hold h1 ▸ h2⟩
      · rw [e]
        intro ha s hr
        obtain ⟨h1, h2⟩ := hs.array_of a ha s hr
        exact ⟨h1, hold (Nat.lt_trans h1 (lt_of_refs (hr ▸ List.mem_singleton_self s))) ▸ h2⟩ }

theorem holdView_full (om : Bool) : Cfg.full.holdView om = true := by cases om <;> rfl

theorem mkNpView_ok {h : Heap} (hw : WF h) {o : Nat} {x : Obj} {toks : List Nat}
    (hm : mkNpView h o = some (x, toks)) : Admissible h x toks ∧ ShapeOk h x := by
  obtain ⟨hc, hm⟩ := Option.ite_none_right_eq_some.mp hm
  cases hm
  have hr : Reach h o := (reach_of_guard hw hc).1
  -- the base of the new view: `o`, or the array `o` is itself a view of; either way it is reachable and leads to
  -- the owner of every buffer `o` addresses
  have hbase : Reach h (npBase h o) ∧ ∀ b ∈ (h.obj o).bufs, ∃ w, Path h (npBase h o) w ∧ b ∈ (h.obj w).owns := by
    unfold npBase
    split
    next hcond =>
      cases hrefs : (h.obj o).refs with
      | nil => exact ⟨hr, hw.keeps_owner o⟩
      | cons r rest =>
        have hlen := hw.nd_refs o hcond.1
        rw [hrefs] at hlen
        have hrest : rest = [] := List.eq_nil_of_length_eq_zero (by simpa using hlen)
        subst hrest
        refine ⟨Reach.step hr (by rw [hrefs]; exact List.mem_cons_self), fun b hb => ?_⟩
        obtain ⟨w, hp, hwo⟩ := hw.keeps_owner o b hb
        rcases hp.inv with h1 | ⟨p, hp1, hp2⟩
        · rw [← h1, hcond.2] at hwo; cases hwo
        · rw [hrefs] at hp1
          exact ⟨w, List.mem_singleton.mp hp1 ▸ hp2, hwo⟩
    next => exact ⟨hr, hw.keeps_owner o⟩
  refine ⟨Admissible.borrowed rfl (List.forall_mem_singleton.mpr hbase.1) (fun b hb => ?_) fun _ => Nat.le_refl 1,
    { view_of := nofun, owning := nofun, nonowning := nofun, owner_kind := nofun, array_of := nofun }⟩
  obtain ⟨w, hp, hwo⟩ := hbase.2 b hb
  exact ⟨_, List.mem_singleton_self _, w, hp, hwo⟩

theorem mkView_ok {h : Heap} (hw : WF h) (hsh : Shape h) {a k : Nat} {x : Obj} {toks : List Nat}
    (hm : mkView Cfg.full h a k = some (x, toks)) : Admissible h x toks ∧ ShapeOk h x := by
  obtain ⟨hc, hm⟩ := Option.ite_none_right_eq_some.mp hm
  obtain ⟨hra, hka⟩ := reach_of_guard hw hc
  split at hm
  next s hrefs =>
    split at hm
    next b hbk =>
      cases hm
      have hrs : Reach h s := Reach.step hra (hrefs ▸ List.mem_singleton_self s)
      have hbs : b ∈ (h.obj s).bufs := List.mem_of_getElem? hbk
      rw [holdView_full]
      refine ⟨Admissible.borrowed rfl (List.forall_mem_singleton.mpr hrs) (fun b' hb' => ?_) nofun,
        { view_of := fun _ => ?_, owning := nofun, nonowning := nofun, owner_kind := nofun, array_of := nofun }⟩
      · obtain ⟨w, hp, hwo⟩ := hw.keeps_owner s b hbs
        exact ⟨s, List.mem_singleton_self s, w, hp, List.mem_singleton.mp hb' ▸ hwo⟩
      · refine ⟨s, rfl, Reach.lt hw hrs, (hsh.array_of a (beq_iff_eq.mp hka) s hrefs).2, fun b' hb' => ?_⟩
        rw [List.mem_singleton.mp hb']
        exact hbs
    next => cases hm
  next => cases hm

/-- `Cfg.full`: every `_hold_ref` call is made -/
theorem mkObj_ok {h : Heap} (hw : WF h) (hsh : Shape h) {c : Cmd} (hna : c.excluded = false) {x : Obj} {toks : List Nat}
    (hm : mkObj Cfg.full h c = some (x, toks)) : Admissible h x toks ∧ ShapeOk h x := by
  have hsrcs : ∀ {srcs : List Nat} {k : Nat → Bool}, (srcs.all fun s => (reachable h).contains s && k s) = true →
      (∀ s ∈ srcs, Reach h s) ∧
        ∀ b ∈ srcs.flatMap (fun s => (h.obj s).bufs), ∃ s ∈ srcs, ∃ w, Path h s w ∧ b ∈ (h.obj w).owns := by
    intro srcs k hc
    refine ⟨fun s hs => (reach_of_guard hw (List.all_eq_true.mp hc s hs)).1, fun b hb => ?_⟩
    obtain ⟨s, hs, hbs⟩ := List.mem_flatMap.mp hb
    exact ⟨s, hs, hw.keeps_owner s b hbs⟩
  cases c with
  | opAliased a => cases hna
  | alias o => cases hm
  | drop o => cases hm
  | finalize o => cases hm
  | npView o => exact mkNpView_ok hw hm
  | view a k => exact mkView_ok hw hsh hm
  -- with the base walk (`Cfg.full.holdOnBaseRoot`) the re-viewed pair is a `view` and an `npView` of it
  | rawField a k => exact mkView_ok hw hsh hm
  | castView r a => exact mkNpView_ok hw hm
  | newArray tok =>
    cases hm
    exact ⟨Admissible.fresh h .ndarray false [tok],
      { view_of := nofun, owning := nofun, nonowning := nofun, owner_kind := fun _ _ => Or.inl ⟨rfl, rfl⟩, array_of := nofun }⟩
  | opStorage tk =>
    cases hm
    exact ⟨Admissible.fresh h .storage true _,
      { view_of := nofun, owning := fun _ _ => rfl, nonowning := nofun, owner_kind := fun _ _ => Or.inr ⟨rfl, rfl⟩,
        array_of := nofun }⟩
  | mkStorage srcs =>
    obtain ⟨hc, hm⟩ := Option.ite_none_right_eq_some.mp hm
    cases hm
    obtain ⟨hall, hbufs⟩ := hsrcs hc
    refine ⟨Admissible.borrowed rfl hall hbufs nofun,
      { view_of := nofun, owning := nofun, nonowning := fun _ _ => ⟨rfl, fun b hb => ?_⟩, owner_kind := nofun,
        array_of := nofun }⟩
    obtain ⟨s, hs, hbs⟩ := List.mem_flatMap.mp hb
    exact ⟨s, hs, Reach.lt hw (hall s hs), hbs⟩
  | mkScipy srcs =>
    obtain ⟨hc, hm⟩ := Option.ite_none_right_eq_some.mp hm
    cases hm
    obtain ⟨hall, hbufs⟩ := hsrcs hc
    exact ⟨Admissible.borrowed rfl hall hbufs nofun,
      { view_of := nofun, owning := nofun, nonowning := nofun, owner_kind := nofun, array_of := nofun }⟩
  | mkArray s =>
    obtain ⟨hc, hm⟩ := Option.ite_none_right_eq_some.mp hm
    cases hm
    obtain ⟨hr, hk⟩ := reach_of_guard hw hc
    refine ⟨Admissible.borrowed rfl (List.forall_mem_singleton.mpr hr) nofun nofun,
      { view_of := nofun, owning := nofun, nonowning := nofun, owner_kind := nofun, array_of := fun _ s' hs' => ?_ }⟩
    cases hs'
    exact ⟨Reach.lt hw hr, beq_iff_eq.mp hk⟩

theorem step_cases {cfg : Cfg} {h h' : Heap} {c : Cmd} (hs : step cfg h c = some h') :
    (∃ x toks, mkObj cfg h c = some (x, toks) ∧ h' = h.push x toks)
    ∨ (∃ roots, (∀ r ∈ roots, r ∈ h.roots ∨ (reachable h).contains r = true) ∧ h' = { h with roots := roots })
    ∨ (∃ o, o < h.objs.length ∧ o ∉ reachable h ∧ o ∉ h.dead ∧
        h' = { h with dead := o :: h.dead, freed := (h.obj o).owns ++ h.freed }) := by
  have hpush : (mkObj cfg h c).map (fun p => h.push p.1 p.2) = some h' →
      ∃ x toks, mkObj cfg h c = some (x, toks) ∧ h' = h.push x toks := fun hm => by
    obtain ⟨p, hp, rfl⟩ := Option.map_eq_some_iff.mp hm
    exact ⟨p.1, p.2, hp, rfl⟩
  cases c with
  | alias o =>
    obtain ⟨hc, hs⟩ := Option.ite_none_right_eq_some.mp hs
    cases hs
    refine Or.inr (Or.inl ⟨_, fun r hr => ?_, rfl⟩)
    rcases List.mem_cons.mp hr with h1 | h1
    · exact Or.inr (h1 ▸ hc)
    · exact Or.inl h1
  | drop o =>
    obtain ⟨_, hs⟩ := Option.ite_none_right_eq_some.mp hs
    cases hs
    exact Or.inr (Or.inl ⟨_, fun r hr => Or.inl (List.mem_of_mem_erase hr), rfl⟩)
  | finalize o =>
    obtain ⟨hc, hs⟩ := Option.ite_none_right_eq_some.mp hs
    cases hs
    simp only [Bool.and_eq_true, decide_eq_true_eq, Bool.not_eq_true', List.contains_eq_mem,
      decide_eq_false_iff_not] at hc
    exact Or.inr (Or.inr ⟨o, hc.1.1, hc.1.2, hc.2, rfl⟩)
  | _ => exact Or.inl (hpush hs)

theorem run_preserves {cfg : Cfg} {P : Heap → Prop} {Q : Cmd → Prop}
    (hstep : ∀ {h h' : Heap} {c : Cmd}, Q c → P h → step cfg h c = some h' → P h') :
    ∀ {h h' : Heap} (cs : List Cmd), (∀ c ∈ cs, Q c) → P h → run cfg h cs = some h' → P h'
  | h, h', [], _, hp, hr => by cases hr; exact hp
  | h, h', c :: cs, hq, hp, hr => by
    obtain ⟨h1, hs, hr⟩ := Option.bind_eq_some_iff.mp hr
    exact run_preserves hstep cs (fun c' hc' => hq c' (List.mem_cons_of_mem _ hc')) (hstep (hq c List.mem_cons_self) hp hs) hr

theorem step_inv {h h' : Heap} {c : Cmd} (hna : c.excluded = false) (hi : WF h ∧ Shape h)
    (hs : step Cfg.full h c = some h') : WF h' ∧ Shape h' := by
  obtain ⟨hw, hsh⟩ := hi
  rcases step_cases hs with ⟨x, toks, hm, rfl⟩ | ⟨roots, hr, e⟩ | ⟨o, hlt, hnr, hnd, e⟩
  · obtain ⟨ha, hx⟩ := mkObj_ok hw hsh hna hm
    exact ⟨push_WF hw ha, push_Shape hsh hx⟩
  · exact ⟨e ▸ roots_WF hw roots fun r hr' => (hr r hr').elim Reach.root (contains_reachable hw),
      Shape.congr (h := h) (by rw [e]) hsh⟩
  · exact ⟨e ▸ finalize_WF hw o hlt (fun hr => hnr ((mem_reachable_iff hw o).mpr hr)) hnd,
      Shape.congr (h := h) (by rw [e]) hsh⟩

theorem run_inv {h h' : Heap} (cs : List Cmd) (hex : ExcludedHistory cs = false) (hi : WF h ∧ Shape h)
    (hr : run Cfg.full h cs = some h') : WF h' ∧ Shape h' :=
  run_preserves (Q := fun c => c.excluded = false) step_inv cs
    (fun c hc => Bool.eq_false_iff.mpr (List.any_eq_false.mp hex c hc)) hi hr

theorem le_sum_of_mem : ∀ {l : List Nat} {a : Nat}, a ∈ l → a ≤ l.sum
  | x :: l, a, h => by
    rw [List.sum_cons]
    rcases List.mem_cons.mp h with h1 | h1
    · omega
    · have := le_sum_of_mem h1; omega

/-- an object the program can reach has a positive reference count (so CPython does not deallocate it) -/
theorem refcount_pos_of_reach {h : Heap} (hw : WF h) {o : Nat} (hr : Reach h o) : 0 < refcount h o := by
  unfold refcount
  cases hr with
  | root hm =>
    have := List.count_pos_iff.mpr hm
    omega
  | @step p _ hp he =>
    have hlt : p < h.objs.length := Reach.lt hw hp
    have hnd : p ∉ h.dead := hw.reach_alive p hp
    have hmem : (h.obj p).refs.count o ∈
        ((List.range h.objs.length).filter fun p => !h.dead.contains p).map fun p => (h.obj p).refs.count o := by
      refine List.mem_map.mpr ⟨p, List.mem_filter.mpr ⟨List.mem_range.mpr hlt, ?_⟩, rfl⟩
      simpa using hnd
    have h1 := le_sum_of_mem hmem
    have h2 := List.count_pos_iff.mpr he
    omega

theorem step_frame (cfg : Cfg) {h h' : Heap} (hlen : h.cont.length = h.nbuf) (c : Cmd) (hs : step cfg h c = some h') :
    h'.cont.length = h'.nbuf ∧ h.nbuf ≤ h'.nbuf ∧ ∀ b, b < h.nbuf → h'.cont[b]? = h.cont[b]? := by
  rcases step_cases hs with ⟨x, toks, _, rfl⟩ | ⟨roots, _, rfl⟩ | ⟨o, _, _, _, rfl⟩
  · refine ⟨by simp [Heap.push, hlen], Nat.le_add_right _ _, fun b hb => ?_⟩
    exact List.getElem?_append_left (by rw [hlen]; exact hb)
  · exact ⟨hlen, Nat.le_refl _, fun _ _ => rfl⟩
  · exact ⟨hlen, Nat.le_refl _, fun _ _ => rfl⟩

theorem run_frame (cfg : Cfg) {h h' : Heap} (cs : List Cmd) (hl : h.cont.length = h.nbuf) (hr : run cfg h cs = some h') :
    h'.cont.length = h'.nbuf ∧ h.nbuf ≤ h'.nbuf ∧ ∀ b, b < h.nbuf → h'.cont[b]? = h.cont[b]? :=
  run_preserves (cfg := cfg) (Q := fun _ => True)
    (P := fun h₁ => h₁.cont.length = h₁.nbuf ∧ h.nbuf ≤ h₁.nbuf ∧ ∀ b, b < h.nbuf → h₁.cont[b]? = h.cont[b]?)
    (fun {_ _ c} _ ⟨l1, n1, f1⟩ hs =>
      let ⟨l2, n2, f2⟩ := step_frame cfg l1 c hs
      ⟨l2, Nat.le_trans n1 n2, fun b hb => (f2 b (Nat.lt_of_lt_of_le hb n1)).trans (f1 b hb)⟩)
    cs (fun _ _ => trivial) ⟨hl, Nat.le_refl _, fun _ _ => rfl⟩ hr

end Own
end SparseV
