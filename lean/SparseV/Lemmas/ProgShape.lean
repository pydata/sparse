/-
  SparseV.Lemmas.ProgShape — step lemmas of the program theorem for the shape operations:
  transpose, reshape, flip, roll, squeeze, expand_dims.
-/
import SparseV.Lemmas.ProgBase
import SparseV.Lemmas.Shape
import SparseV.Lemmas.Reduce
import SparseV.Props.C08
namespace SparseV
open SparseV.COO

theorem noFill_of_vals {x y : COO Int} (hf : y.fill = x.fill)
    (hv : ∀ e ∈ y.entries, ∃ e0 ∈ x.entries, e.2 = e0.2) : x.NoFill → y.NoFill := by
  intro hx e he
  obtain ⟨e0, he0, h⟩ := hv e he
  rw [h, hf]
  exact hx e0 he0

theorem vals_mapIdx {α : Type} (f : Idx → Idx) (es : List (Idx × α)) :
    ∀ e ∈ mapIdx f es, ∃ e0 ∈ es, e.2 = e0.2 := by
  intro e he
  obtain ⟨e0, he0, rfl⟩ := List.mem_map.mp he
  exact ⟨e0, he0, rfl⟩

theorem vals_sort_mapIdx {α : Type} (shape : List Nat) (f : Idx → Idx) (es : List (Idx × α)) :
    ∀ e ∈ sortEntries shape (mapIdx f es), ∃ e0 ∈ es, e.2 = e0.2 :=
  fun e he => vals_mapIdx f es e (mem_sortEntries.mp he)

theorem vals_transposeCore (x : COO Int) (axes : List Nat) :
    ∀ e ∈ (x.transposeCore axes).entries, ∃ e0 ∈ x.entries, e.2 = e0.2 := by
  unfold transposeCore
  split
  · intro e he; exact ⟨e, he, rfl⟩
  · exact vals_sort_mapIdx _ _ _

theorem vals_reshapeCore (x : COO Int) (s : List Nat) :
    ∀ e ∈ (x.reshapeCore s).entries, ∃ e0 ∈ x.entries, e.2 = e0.2 := by
  unfold reshapeCore
  split
  · intro e he; exact ⟨e, he, rfl⟩
  · exact fun e he => vals_mapIdx (fun i => unravel (ravel i x.shape) s) x.entries e he

theorem transpose_step (axes : List Int) (x : COO Int) (d : Dense) (hg : Good x) (hr : Refines x d) :
    Sim x.NoFill (Expr.mTranspose x axes) (Expr.sTranspose d axes) := by
  unfold Expr.mTranspose Expr.sTranspose
  rw [normAxes_eq_npAxes, ← hr.shape]
  cases hax : npAxes axes x.shape.length with
  | error e => exact Sim.err e
  | ok ax =>
    simp only []
    refine SimR.reject fun hnd => SimR.reject fun hl => ?_
    have hp : ax.Perm (List.range x.shape.length) :=
      perm_range_iff.mpr ⟨Decidable.not_not.mp hnd, npAxes_lt hax, Decidable.not_not.mp hl⟩
    obtain ⟨hshape, hfill, hwf, hs⟩ := COO.transposeCore_facts x ax hp hg.wf hg.sorted
    refine Sim.ok ⟨hwf, hs⟩ (noFill_of_vals hfill (vals_transposeCore x ax))
      ⟨hshape, hfill.trans hr.fill, fun j hj => ?_⟩
    rw [hshape] at hj
    rw [(C08.transpose_get x ax hp hg.wf hg.nodup j hj).1]
    exact hr.val _ (C08.transpose_src_inb x ax hp j hj)

theorem reshape_step (s : List Nat) (x : COO Int) (d : Dense) (hg : Good x) (hr : Refines x d) :
    Sim x.NoFill (Expr.mReshape x s) (Expr.sReshape d s) := by
  unfold Expr.mReshape Expr.sReshape
  rw [← hr.shape]
  refine SimR.require fun hsize => ?_
  obtain ⟨hshape, hfill, hwf⟩ := COO.reshapeCore_facts x s hg.wf hsize
  refine Sim.ok ⟨hwf, by rw [hshape]; exact COO.reshapeCore_sorted x s hg.wf hsize hg.sorted⟩
    (noFill_of_vals hfill (vals_reshapeCore x s)) ⟨hshape, hfill.trans hr.fill, fun j hj => ?_⟩
  rw [hshape] at hj
  rw [(C08.reshape_get x s hg.wf hsize j hj).1]
  exact hr.val _ (unravel_InB _ _ (hsize ▸ ravel_lt hj))

/-! ### flip, roll: an involutive / invertible coordinate map followed by the constructor's sort -/

theorem sortRewrite_good (x : COO Int) (f h : Idx → Idx) (hg : Good x)
    (hinv : ∀ i, InB i x.shape → h (f i) = i) (hin : ∀ i, InB i x.shape → InB (f i) x.shape) :
    Good { shape := x.shape, entries := sortEntries x.shape (mapIdx f x.entries), fill := x.fill } := by
  have hwf : ∀ e ∈ mapIdx f x.entries, InB e.1 x.shape := by
    intro e he
    obtain ⟨e0, he0, rfl⟩ := List.mem_map.mp he
    exact hin _ (hg.wf e0 he0)
  exact ⟨fun e he => hwf e (mem_sortEntries.mp he),
    sortEntries_sortedLin _ _ (mapIdx_nodup _ f h (fun e he => hinv _ (hg.wf e he)) hg.nodup) hwf⟩

theorem flip_step (axes : List Int) (x : COO Int) (d : Dense) (hg : Good x) (hr : Refines x d) :
    Sim x.NoFill (Expr.mFlip x axes) (Expr.sFlip d axes) := by
  unfold Expr.mFlip Expr.sFlip
  rw [normAxes_eq_npAxes, ← hr.shape]
  cases hax : npAxes axes x.shape.length with
  | error e => exact Sim.err e
  | ok ax =>
    simp only []
    refine SimR.reject fun _ => ?_
    refine Sim.ok (sortRewrite_good x (flipIdx x.shape ax) (flipIdx x.shape ax) hg
        (fun i hi => flipIdx_flipIdx ax hi) (fun i hi => InB_flipIdx ax hi))
      (noFill_of_vals rfl (vals_sort_mapIdx _ _ _)) ⟨rfl, hr.fill, fun j hj => ?_⟩
    rw [(C08.flip_get x ax hg.wf hg.nodup j hj).1]
    exact hr.val _ (C08.flip_src_inb x ax j hj)

theorem roll_step (shifts axes : List Int) (x : COO Int) (d : Dense) (hg : Good x) (hr : Refines x d) :
    Sim x.NoFill (Expr.mRoll x shifts axes) (Expr.sRoll d shifts axes) := by
  unfold Expr.mRoll Expr.sRoll
  rw [normAxes_eq_npAxes, ← hr.shape]
  cases hax : npAxes axes x.shape.length with
  | error e => exact Sim.err e
  | ok ax =>
    simp only []
    refine SimR.reject fun hl => ?_
    have hl := Decidable.not_not.mp hl
    refine Sim.ok (sortRewrite_good x (rollIdx x.shape ax (Expr.rollShifts shifts ax.length))
        (rollIdx x.shape ax.reverse ((Expr.rollShifts shifts ax.length).reverse.map fun s => -s)) hg
        (fun i hi => rollIdx_inv_left hl hi) (fun i hi => InB_rollIdx _ _ hi))
      (noFill_of_vals rfl (vals_sort_mapIdx _ _ _)) ⟨rfl, hr.fill, fun j hj => ?_⟩
    rw [(C08.roll_get x ax _ hl hg.wf hg.nodup j hj).1]
    exact hr.val _ (C08.roll_src_inb x ax _ j hj)

/-! ### squeeze, expand_dims: a coordinate map that keeps every row-major linear location -/

theorem mapIdx_good {x : COO Int} (hg : Good x) (g : Idx → Idx) (s : List Nat)
    (hin : ∀ i, InB i x.shape → InB (g i) s) (hrav : ∀ i, InB i x.shape → ravel (g i) s = ravel i x.shape) :
    Good { shape := s, entries := mapIdx g x.entries, fill := x.fill } := by
  constructor
  · intro e he
    obtain ⟨e0, he0, rfl⟩ := List.mem_map.mp he
    exact hin _ (hg.wf e0 he0)
  · exact mapIdx_sortedLin g 0 (fun e he => hrav _ (hg.wf e he)) hg.sorted

theorem unsqueeze_eq (axes : List Nat) : ∀ (s : List Nat) (a : Nat) (j : Idx),
    Expr.unsqueeze axes a s j = reinsertFrom axes a s j
  | [], _, _ => rfl
  | _ :: s, a, j => by
    unfold Expr.unsqueeze reinsertFrom
    split
    · rw [unsqueeze_eq axes s (a + 1) j]
    · rw [unsqueeze_eq axes s (a + 1) j.tail]

theorem InB_dropFrom (axes : List Nat) : ∀ (s : List Nat) (a : Nat) (i : Idx), InB i s →
    InB (dropFrom axes a i) (dropFrom axes a s)
  | [], _, [], _ => by simp [dropFrom]
  | [], _, _ :: _, h => absurd h (by simp [InB])
  | _ :: _, _, [], h => absurd h (by simp [InB])
  | d :: s, a, c :: i, h => by
    have ih := InB_dropFrom axes s (a + 1) i h.2
    unfold dropFrom
    split
    · exact ih
    · exact ⟨h.1, ih⟩

theorem ravel_dropFrom (axes : List Nat) : ∀ (s : List Nat) (a : Nat) (i : Idx), InB i s →
    (∀ k, k < s.length → axes.contains (a + k) = true → s.getD k 0 = 1) →
    ravel (dropFrom axes a i) (dropFrom axes a s) = ravel i s ∧ prod (dropFrom axes a s) = prod s
  | [], _, [], _, _ => by simp [dropFrom]
  | [], _, _ :: _, h, _ => absurd h (by simp [InB])
  | _ :: _, _, [], h, _ => absurd h (by simp [InB])
  | d :: s, a, c :: i, h, hone => by
    obtain ⟨ih1, ih2⟩ := ravel_dropFrom axes s (a + 1) i h.2 fun k hk hc =>
      hone (k + 1) (Nat.succ_lt_succ hk) (by rw [← hc]; congr 1; omega)
    by_cases hc : axes.contains a = true
    · -- a dropped axis has extent 1, so its coordinate is 0 and contributes nothing
      have hd : d = 1 := hone 0 (Nat.zero_lt_succ _) hc
      have hc0 : c = 0 := by have := h.1; omega
      subst hd hc0
      rw [dropFrom_cons_pos hc, dropFrom_cons_pos hc, ih1, ih2]
      simp only [ravel, prod, Nat.zero_mul, Nat.zero_add, Nat.one_mul, and_self]
    · have hc' : axes.contains a = false := Bool.eq_false_iff.mpr hc
      rw [dropFrom_cons_neg hc', dropFrom_cons_neg hc']
      simp only [ravel, prod, ih1, ih2, and_self]

theorem squeezeAxes_ok {shape : List Nat} {axes : List Int} {ax : List Nat}
    (h : squeezeAxes shape axes = .ok ax) : ∀ a ∈ ax, a < shape.length ∧ shape.getD a 0 = 1 := by
  unfold squeezeAxes at h
  simp only [] at h
  split at h
  · cases h
  · refine mapM_ok_forall _ (fun a => a < shape.length ∧ shape.getD a 0 = 1) ?_ _ _ h
    intro b c hb
    split at hb
    · next hc =>
      have := Except.ok.inj hb
      subst this
      exact ⟨by omega, hc.2.2⟩
    · split at hb <;> cases hb

theorem squeeze_step (axes : List Int) (x : COO Int) (d : Dense) (hg : Good x) (hr : Refines x d) :
    Sim x.NoFill (Expr.mSqueeze x axes) (Expr.sSqueeze d axes) := by
  unfold Expr.mSqueeze Expr.sSqueeze
  rw [← hr.shape]
  cases hax : squeezeAxes x.shape axes with
  | error e => exact Sim.err e
  | ok ax =>
    simp only []
    have hone : ∀ a ∈ ax, x.shape.getD a 0 = 1 := fun a ha => (squeezeAxes_ok hax a ha).2
    refine Sim.ok (mapIdx_good hg (dropAxes · ax) (dropAxes x.shape ax) (fun i hi => ?_) (fun i hi => ?_))
      (noFill_of_vals rfl fun e he => vals_mapIdx (dropAxes · ax) x.entries e he) ⟨rfl, hr.fill, fun j hj => ?_⟩
    · rw [dropAxes_eq_dropFrom, dropAxes_eq_dropFrom]
      exact InB_dropFrom ax _ 0 _ hi
    · rw [dropAxes_eq_dropFrom, dropAxes_eq_dropFrom]
      exact (ravel_dropFrom ax _ 0 _ hi (ones_shift hone)).1
    · obtain ⟨hget, hin, _, _, _⟩ := C08.squeeze_get x ax hone hg.wf j hj
      show _ = d.val (Expr.unsqueeze ax 0 x.shape j)
      rw [hget, unsqueeze_eq]
      exact hr.val _ hin

theorem ravel_insertAt : ∀ (pos : Nat) (i s : List Nat), InB i s → pos ≤ s.length →
    ravel (insertAt i pos 0) (insertAt s pos 1) = ravel i s ∧ prod (insertAt s pos 1) = prod s
  | 0, i, s, _, _ => by
    simp only [insertAt_zero, ravel, prod, Nat.zero_mul, Nat.zero_add, Nat.one_mul, and_self]
  | pos + 1, [], [], _, hp => absurd hp (Nat.not_succ_le_zero _)
  | pos + 1, c :: i, d :: s, h, hp => by
    obtain ⟨ih1, ih2⟩ := ravel_insertAt pos i s h.2 (Nat.le_of_succ_le_succ hp)
    simp only [insertAt_cons_succ, ravel, prod, ih1, ih2, and_self]
  | pos + 1, [], _ :: _, h, _ => absurd h (by simp)
  | pos + 1, _ :: _, [], h, _ => absurd h (by simp)

theorem expandDims_step (axis : Int) (x : COO Int) (d : Dense) (hg : Good x) (hr : Refines x d) :
    Sim x.NoFill (Expr.mExpandDims x axis) (Expr.sExpandDims d axis) := by
  unfold Expr.mExpandDims Expr.sExpandDims
  rw [normAxis_eq_npAxis, ← hr.shape]
  cases hax : npAxis axis (x.shape.length + 1) with
  | error e => exact Sim.err e
  | ok pos =>
    simp only []
    have hpos : pos ≤ x.shape.length := by have := npAxis_lt hax; omega
    refine Sim.ok (mapIdx_good hg (insertAt · pos 0) (insertAt x.shape pos 1) (fun i hi => InB_insertAt pos hi hpos)
        (fun i hi => (ravel_insertAt pos _ _ hi hpos).1))
      (noFill_of_vals rfl fun e he => vals_mapIdx (insertAt · pos 0) x.entries e he) ⟨rfl, hr.fill, fun k hk => ?_⟩
    obtain ⟨j, hj, rfl⟩ := C08.expand_dims_onto x pos hpos k hk
    show _ = d.val ((insertAt j pos 0).eraseIdx pos)
    rw [(C08.expand_dims_get x pos hpos hg.wf j hj).1, eraseIdx_insertAt pos j 0 (by rw [InB_length hj]; exact hpos)]
    exact hr.val _ hj

end SparseV
