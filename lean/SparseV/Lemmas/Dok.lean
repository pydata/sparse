/-
  SparseV.Lemmas.Dok — helper lemmas for property C12: the dict operations (`upsert`, `erase`,
  `store`), the invariant they keep, in-range keys and their enumeration, Python ranges.
-/
import SparseV.Model.Dok
import SparseV.Spec.Assign
namespace SparseV
namespace Dok
variable {α : Type}

def keysOf (es : List (DKey × α)) : List DKey := es.map (·.1)

theorem keysOf_cons (e : DKey × α) (es : List (DKey × α)) : keysOf (e :: es) = e.1 :: keysOf es := rfl

@[simp] theorem alookup_nil (d : α) (k : DKey) : alookup ([] : List (DKey × α)) d k = d := rfl

theorem alookup_cons (e : DKey × α) (es : List (DKey × α)) (d : α) (k : DKey) :
    alookup (e :: es) d k = if e.1 = k then e.2 else alookup es d k := rfl

theorem alookup_upsert (es : List (DKey × α)) (d : α) (k j : DKey) (x : α) :
    alookup (upsert es k x) d j = if j = k then x else alookup es d j := by
  induction es with
  | nil => simp only [upsert, alookup, eq_comm]
  | cons e es ih =>
    by_cases hj : j = k
    · subst hj
      rw [if_pos rfl, upsert]
      by_cases he : e.1 = j
      · rw [if_pos he, alookup_cons, if_pos rfl]
      · rw [if_neg he, alookup_cons, if_neg he, ih, if_pos rfl]
    · rw [if_neg hj, upsert]
      by_cases he : e.1 = k
      · rw [if_pos he, alookup_cons, alookup_cons, if_neg (Ne.symm hj), he, if_neg (Ne.symm hj)]
      · rw [if_neg he, alookup_cons, alookup_cons, ih, if_neg hj]

theorem alookup_erase (es : List (DKey × α)) (d : α) (k j : DKey) :
    alookup (erase es k) d j = if j = k then d else alookup es d j := by
  induction es with
  | nil => exact (ite_self d).symm
  | cons e es ih =>
    rw [erase] at ih ⊢
    by_cases hj : j = k
    · subst hj
      rw [if_pos rfl]
      by_cases he : e.1 = j
      · rw [List.filter_cons_of_neg (by simpa using he), ih, if_pos rfl]
      · rw [List.filter_cons_of_pos (by simpa using he), alookup_cons, if_neg he, ih, if_pos rfl]
    · rw [if_neg hj]
      by_cases he : e.1 = k
      · rw [List.filter_cons_of_neg (by simpa using he), ih, if_neg hj, alookup_cons, if_neg (he ▸ Ne.symm hj)]
      · rw [List.filter_cons_of_pos (by simpa using he), alookup_cons, alookup_cons, ih, if_neg hj]
theorem alookup_store [DecidableEq α] (fill : α) (es : List (DKey × α)) (k j : DKey) (x : α) :
    alookup (store fill es k x) fill j = if j = k then x else alookup es fill j := by
  unfold store
  split
  · next hx => rw [alookup_erase, hx]
  · exact alookup_upsert es fill k j x

theorem mem_upsert {es : List (DKey × α)} {k : DKey} {x : α} {e : DKey × α} (h : e ∈ upsert es k x) :
    e = (k, x) ∨ e ∈ es := by
  induction es with
  | nil => exact Or.inl (List.mem_singleton.mp h)
  | cons a es ih =>
    simp only [upsert] at h
    split at h
    · exact (List.mem_cons.mp h).imp_right (List.mem_cons_of_mem a)
    · rcases List.mem_cons.mp h with h | h
      · exact Or.inr (h ▸ List.mem_cons_self)
      · exact (ih h).imp_right (List.mem_cons_of_mem a)

theorem keysOf_upsert (es : List (DKey × α)) (k : DKey) (x : α) :
    keysOf (upsert es k x) = if k ∈ keysOf es then keysOf es else keysOf es ++ [k] := by
  induction es with
  | nil => rfl
  | cons a es ih =>
    simp only [upsert, keysOf_cons, List.mem_cons]
    split
    · next h => rw [if_pos (Or.inl h.symm), keysOf_cons, h]
    · next h =>
      rw [keysOf_cons, ih]
      have hk : ¬ k = a.1 := fun hh => h hh.symm
      simp only [hk, false_or]
      split <;> rfl

/-- what every reachable dict satisfies: distinct keys, no stored fill value -/
def Inv (fill : α) (es : List (DKey × α)) : Prop :=
  (keysOf es).Nodup ∧ ∀ e ∈ es, e.2 ≠ fill

theorem inv_nil (fill : α) : Inv fill ([] : List (DKey × α)) := by
  simp [Inv, keysOf]

theorem store_inv [DecidableEq α] {fill : α} {es : List (DKey × α)} (h : Inv fill es) (k : DKey) (x : α) :
    Inv fill (store fill es k x) := by
  unfold store
  split
  · exact ⟨h.1.sublist (List.filter_sublist.map _), fun e he => h.2 e (List.mem_filter.mp he).1⟩
  · next hx =>
    refine ⟨?_, fun e he => ?_⟩
    · rw [keysOf_upsert]
      split
      · exact h.1
      · next hm => exact List.nodup_append.mpr ⟨h.1, List.pairwise_singleton _ _, fun a ha b hb hab =>
          hm (List.mem_singleton.mp hb ▸ hab ▸ ha)⟩
    · rcases mem_upsert he with h' | h'
      · exact h' ▸ hx
      · exact h.2 e h'

theorem alookup_of_not_mem {es : List (DKey × α)} {d : α} {k : DKey} (h : k ∉ keysOf es) : alookup es d k = d := by
  induction es with
  | nil => rfl
  | cons e es ih =>
    rw [keysOf_cons, List.mem_cons, not_or] at h
    rw [alookup_cons, if_neg (Ne.symm h.1), ih h.2]

theorem alookup_mem_of_mem {es : List (DKey × α)} {d : α} {k : DKey} (h : k ∈ keysOf es) :
    (k, alookup es d k) ∈ es := by
  induction es with
  | nil => cases h
  | cons e es ih =>
    rw [alookup_cons]
    split
    · next hek => exact hek ▸ List.mem_cons_self
    · next hek => exact List.mem_cons_of_mem _ (ih ((List.mem_cons.mp h).resolve_left (Ne.symm hek)))

theorem mem_keys_iff {fill : α} {es : List (DKey × α)} (h : Inv fill es) (k : DKey) :
    k ∈ keysOf es ↔ alookup es fill k ≠ fill :=
  ⟨fun hm => h.2 _ (alookup_mem_of_mem hm), fun hne => Classical.byContradiction fun hn => hne (alookup_of_not_mem hn)⟩

theorem mem_allKeys (s : List Nat) (k : DKey) : k ∈ allKeys s ↔ InBI k s := by
  induction s generalizing k with
  | nil => cases k <;> simp [allKeys, InBI]
  | cons d ds ih =>
    simp only [allKeys, List.mem_flatMap, List.mem_range, List.mem_map]
    constructor
    · rintro ⟨i, hi, r, hr, rfl⟩
      exact ⟨⟨Int.natCast_nonneg i, Int.ofNat_lt.mpr hi⟩, (ih r).mp hr⟩
    · intro h
      cases k with
      | nil => exact h.elim
      | cons i is =>
        obtain ⟨⟨h0, h1⟩, h2⟩ := h
        exact ⟨i.toNat, by omega, is, (ih is).mpr h2, congrArg (· :: is) (Int.toNat_of_nonneg h0)⟩

theorem nodup_allKeys : ∀ (s : List Nat), (allKeys s).Nodup
  | [] => List.pairwise_singleton _ _
  | d :: ds => by
    unfold allKeys List.Nodup
    refine List.pairwise_flatMap.mpr ⟨fun i _ => ?_, List.nodup_range.imp ?_⟩
    · exact List.pairwise_map.mpr ((nodup_allKeys ds).imp fun hab h => hab (List.cons.inj h).2)
    · intro i j hij x hx y hy hxy
      obtain ⟨r, _, rfl⟩ := List.mem_map.mp hx
      obtain ⟨r', _, rfl⟩ := List.mem_map.mp hy
      exact hij (Int.ofNat.inj (List.cons.inj hxy).1)

theorem canon_inv {d : DOK α} (h : Canon d) : Inv d.fill d.entries :=
  ⟨h.1, fun e he => (h.2 e he).2⟩

theorem inb_of_mem_keys {d : DOK α} (hc : Canon d) {k : DKey} (hk : k ∈ keysOf d.entries) : InBI k d.shape := by
  obtain ⟨e, he, rfl⟩ := List.mem_map.mp hk
  exact (hc.2 e he).1

/-- a stored key does not read the fill value, so either it was stored before or it is one of the keys
that changed -/
theorem canon_of_reads {d : DOK α} (hc : Canon d) {es : List (DKey × α)} (hi : Inv d.fill es)
    (hin : ∀ k, alookup es d.fill k ≠ get d k → InBI k d.shape) : Canon { d with entries := es } := by
  refine ⟨hi.1, fun e he => ⟨?_, hi.2 e he⟩⟩
  have hne := (mem_keys_iff hi e.1).mp (List.mem_map.mpr ⟨e, he, rfl⟩)
  by_cases heq : alookup es d.fill e.1 = get d e.1
  · rw [heq] at hne
    exact inb_of_mem_keys hc ((mem_keys_iff (canon_inv hc) e.1).mpr hne)
  · exact hin _ heq

open Spec

theorem mem_rangeFuel : ∀ (fuel : Nat) (cur stop step x : Int), x ∈ rangeFuel fuel cur stop step →
    (0 < step → cur ≤ x ∧ x < stop) ∧ (step < 0 → stop < x ∧ x ≤ cur) := by
  intro fuel
  induction fuel with
  | zero => intro cur stop step x h; cases h
  | succ n ih =>
    intro cur stop step x h
    simp only [rangeFuel] at h
    split at h
    · next hc =>
      rcases List.mem_cons.mp h with h | h
      · omega
      · have := ih _ _ _ _ h
        omega
    · cases h

theorem nodup_rangeFuel : ∀ (fuel : Nat) (cur stop step : Int), (rangeFuel fuel cur stop step).Nodup := by
  intro fuel
  induction fuel with
  | zero => intro cur stop step; exact List.nodup_nil
  | succ n ih =>
    intro cur stop step
    simp only [rangeFuel]
    split
    · next hc =>
      refine List.nodup_cons.mpr ⟨fun hm => ?_, ih _ _ _⟩
      have := mem_rangeFuel _ _ _ _ _ hm
      omega
    · exact List.nodup_nil

theorem nodup_rangeOf (t : Int × Int × Int) : (rangeOf t).Nodup := by
  unfold rangeOf
  split
  · exact List.nodup_nil
  · exact nodup_rangeFuel _ _ _ _

/-- CPython clamps a given bound into `[lo, hi]`, where `lo ≤ 0` and `dim - 1 ≤ hi` -/
theorem pyClamp_bounds {s lo hi dim : Int} (h1 : lo ≤ 0) (h2 : dim - 1 ≤ hi) (h3 : lo ≤ hi) :
    lo ≤ (if s < 0 then max (s + dim) lo else min s hi) ∧ (if s < 0 then max (s + dim) lo else min s hi) ≤ hi := by
  split
  · exact ⟨Int.le_max_right _ _, Int.max_le.mpr ⟨by omega, h3⟩⟩
  · exact ⟨Int.le_min.mpr ⟨by omega, h3⟩, Int.min_le_right _ _⟩

/-- both ends of `slice.indices(dim)` lie between the clamps CPython uses for the sign of the step -/
theorem pyAdjust_bounds (a b : Option Int) {step dim : Int} (hd : 0 ≤ dim) :
    (0 < step → 0 ≤ (pyAdjust a b step dim).1 ∧ (pyAdjust a b step dim).2.1 ≤ dim) ∧
    (step < 0 → (pyAdjust a b step dim).1 ≤ dim - 1 ∧ -1 ≤ (pyAdjust a b step dim).2.1) := by
  constructor
  · intro hs
    have hn : ¬ step < 0 := Int.not_lt.mpr (Int.le_of_lt hs)
    simp only [pyAdjust, hn, if_false]
    constructor
    · cases a with
      | none => exact Int.le_refl 0
      | some s => exact (pyClamp_bounds (Int.le_refl 0) (by omega) hd).1
    · cases b with
      | none => exact Int.le_refl dim
      | some s => exact (pyClamp_bounds (Int.le_refl 0) (by omega) hd).2
  · intro hs
    simp only [pyAdjust, hs, if_true]
    constructor
    · cases a with
      | none => exact Int.le_refl _
      | some s => exact (pyClamp_bounds (by omega) (Int.le_refl _) (by omega)).2
    · cases b with
      | none => exact Int.le_refl _
      | some s => exact (pyClamp_bounds (by omega) (Int.le_refl _) (by omega)).1
theorem mem_rangeOf_pyAdjust {a b : Option Int} {step dim x : Int} (hd : 0 ≤ dim) (hs : step ≠ 0)
    (hx : x ∈ rangeOf (pyAdjust a b step dim)) : 0 ≤ x ∧ x < dim := by
  unfold rangeOf at hx
  split at hx
  · cases hx
  · have h := mem_rangeFuel _ _ _ _ _ hx
    have hb := pyAdjust_bounds a b (step := step) hd
    rcases Int.lt_or_gt_of_ne hs with hn | hp
    · have := h.2 hn
      have := hb.2 hn
      omega
    · have := h.1 hp
      have := hb.1 hp
      omega
end Dok
end SparseV
