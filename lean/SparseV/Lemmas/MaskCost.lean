/-
  SparseV.Lemmas.MaskCost — the iteration count of `_compute_mask` is bounded in the stored entries and the pairs, not in the slice lengths.
-/
import SparseV.Model.MaskCost
namespace SparseV
namespace MaskCost

/-- one axis handled with pairs: `L · p ≤ M + 2 p` — a slice of three or more positions passes the heuristic only when `S ≤ M + p`; a shorter
one costs at most `2 p` whatever the heuristic says -/
theorem axis_iterations_le (take : Nat → Nat → Nat → Bool) (hs : HeuristicSound take) (L p M : Nat)
    (ht : take (L * p + 2) p M = true) : L * p ≤ M + 2 * p := by
  by_cases hp : p = 0
  · subst hp
    exact Nat.zero_le _
  · by_cases hL : L ≤ 2
    · have := Nat.mul_le_mul_right p hL
      omega
    · have h3p : 3 * p ≤ L * p := Nat.mul_le_mul_right p (by omega)
      have hmax : Nat.max p 1 = p := Nat.max_eq_left (by omega)
      have hS := hs (L * p + 2) p M ht (by rw [hmax]; omega)
      omega

theorem pairIterations_le_total (take : Nat → Nat → Nat → Bool) : ∀ (steps : List AxisStep) (p M : Nat),
    pairIterations take p M steps ≤ totalIterations take p M steps
  | [], _, _ => Nat.le_refl _
  | a :: as, p, M => by
    unfold pairIterations totalIterations
    by_cases ht : take (a.L * p + 2) p M = true
    · rw [if_pos ht, if_pos ht]
      exact Nat.add_le_add_left (pairIterations_le_total take as _ _) _
    · rw [if_neg ht]
      exact Nat.zero_le _

theorem totalIterations_le (take : Nat → Nat → Nat → Bool) (hs : HeuristicSound take) (n : Nat) :
    ∀ (steps : List AxisStep) (p M : Nat), p ≤ M + 1 → M ≤ n → Admissible M steps →
      totalIterations take p M steps ≤ steps.length * (3 * n + 2)
  | [], _, _, _, _, _ => Nat.zero_le _
  | a :: as, p, M, hp, hM, ⟨h1, h2, h3⟩ => by
    unfold totalIterations
    rw [List.length_cons, Nat.succ_mul]
    by_cases ht : take (a.L * p + 2) p M = true
    · rw [if_pos ht]
      have hax := axis_iterations_le take hs a.L p M ht
      have ih := totalIterations_le take hs n as a.p' a.M' (by omega) (by omega) h3
      omega
    · rw [if_neg ht, filterIterations, ← Nat.succ_mul, Nat.mul_comm]
      exact Nat.mul_le_mul_left _ (by omega)

end MaskCost
end SparseV
