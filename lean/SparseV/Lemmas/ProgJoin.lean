/-
  SparseV.Lemmas.ProgJoin — step lemmas of the program theorem for the joins:
  concatenate and stack.
-/
import SparseV.Lemmas.ProgBase
import SparseV.Lemmas.ProgShape
import SparseV.Lemmas.Join
import SparseV.Props.C09

namespace SparseV
open SparseV.COO

theorem refines_getD {xs : List (COO Int)} {ds : List Dense} (h : RefinesL xs ds) :
    ∀ (x0 : COO Int) (d0 : Dense), Refines x0 d0 → ∀ k, Refines (xs.getD k x0) (ds.getD k d0) := by
  induction h with
  | nil => intro x0 d0 h0 k; simpa using h0
  | cons hab _ ih =>
    intro x0 d0 h0 k
    cases k with
    | zero => simpa using hab
    | succ k => simpa using ih x0 d0 h0 k

theorem all_refinesL {p : COO Int → Bool} {q : Dense → Bool} (hpq : ∀ x d, Refines x d → p x = q d)
    {xs : List (COO Int)} {ds : List Dense} (h : RefinesL xs ds) : xs.all p = ds.all q := by
  induction h with
  | nil => rfl
  | cons hab _ ih => simp only [List.all_cons, hpq _ _ hab, ih]

theorem length_refinesL {xs : List (COO Int)} {ds : List Dense} (h : RefinesL xs ds) :
    xs.length = ds.length := by
  induction h with
  | nil => rfl
  | cons _ _ ih => simp only [List.length_cons, ih]

theorem exts_refinesL (ax : Nat) {xs : List (COO Int)} {ds : List Dense} (h : RefinesL xs ds) :
    exts xs ax = ds.map fun y => y.shape.getD ax 0 := by
  induction h with
  | nil => rfl
  | cons hab _ ih =>
    unfold exts at ih ⊢
    simp only [List.map_cons, hab.shape, ih]

theorem locateD_eq : ∀ (es : List Nat) (p : Nat), Expr.locateD es p = locate es p
  | [], _ => rfl
  | e :: es, p => by
    unfold Expr.locateD locate
    rw [locateD_eq es (p - e)]

theorem getD_cons_mem {β : Type} (x0 : β) (l : List β) (k : Nat) : (x0 :: l).getD k x0 ∈ x0 :: l := by
  by_cases hk : k < (x0 :: l).length
  · exact getD_mem _ _ _ hk
  · rw [List.getD_eq_getElem?_getD, List.getElem?_eq_none (by omega)]
    exact List.mem_cons_self

/-- a passed "every other member agrees with the first" test, read for all members -/
theorem forall_of_all_beq {β γ : Type} [BEq γ] [LawfulBEq γ] (f : β → γ) {x0 : β} {rest : List β}
    (h : ¬ (rest.all fun y => f y == f x0) = false) : ∀ y ∈ x0 :: rest, f y = f x0 := by
  intro y hy
  rcases List.mem_cons.mp hy with rfl | hy
  · rfl
  · exact eq_of_beq (List.all_eq_true.mp (Bool.not_eq_false _ ▸ h) y hy)

theorem sameFill_refines {x0 : COO Int} {d0 : Dense} {rest : List (COO Int)} {drest : List Dense}
    (hr0 : Refines x0 d0) (hrr : RefinesL rest drest) : Expr.sameFill x0 rest = Expr.sameFillD d0 drest :=
  all_refinesL (fun x d h => by rw [h.fill, hr0.fill]) hrr

namespace COO
variable {α : Type}

theorem concat_go_mem (axis : Nat) (ys : List (COO α)) (off : Nat) :
    ∀ e ∈ (concatCore.go axis ys off).1,
      ∃ y ∈ ys, ∃ o, ∃ e0 ∈ y.entries, e = (shiftAx axis o e0.1, e0.2) := by
  induction ys generalizing off with
  | nil => intro e he; simp [concatCore.go] at he
  | cons y ys ih =>
    intro e he
    rw [concat_go_cons] at he
    rcases List.mem_append.mp he with h | h
    · obtain ⟨e0, he0, rfl⟩ := List.mem_map.mp h
      exact ⟨y, List.mem_cons_self, off, e0, he0, rfl⟩
    · obtain ⟨z, hz, o, e0, he0, heq⟩ := ih _ e h
      exact ⟨z, List.mem_cons_of_mem _ hz, o, e0, he0, heq⟩

theorem concat_go_inb (axis : Nat) (s0 : List Nat) (hax : axis < s0.length) (ys : List (COO α)) (off tot : Nat)
    (hwf : ∀ y ∈ ys, y.WF) (hshape : ∀ y ∈ ys, y.shape.set axis 0 = s0.set axis 0)
    (htot : off + (exts ys axis).sum ≤ tot) :
    ∀ e ∈ (concatCore.go axis ys off).1, InB e.1 (s0.set axis tot) := by
  have hrank : ∀ y ∈ ys, axis < y.shape.length := fun y hy => length_eq_of_set_eq (hshape y hy) ▸ hax
  intro e he
  obtain ⟨y, hy, o, e0, he0, rfl⟩ := concat_go_mem axis ys off e he
  have hrange : (shiftAx axis o e0.1).getD axis 0 < _ := (concat_go_key_range axis ys off hwf hrank _ he).2
  have hin := hwf y hy e0 he0
  -- `y.shape` is `s0` with extent `y.shape[axis]` along `axis`
  have := InB_set hin axis (p := e0.1.getD axis 0 + o) (m := tot)
    (by rw [← shiftAx_getD axis o e0.1 (InB_length hin ▸ hrank y hy)]; omega)
  rwa [eq_set_of_set_eq (hshape y hy), List.set_set] at this

theorem concatCore_mem_entries (x0 : COO α) (rest : List (COO α)) (axis : Nat) (e : Idx × α)
    (he : e ∈ (concatCore x0 rest axis).entries) : e ∈ (concatCore.go axis (x0 :: rest) 0).1 := by
  simp only [concatCore] at he
  split at he
  · exact he
  · exact mem_sortEntries.mp he

theorem stackGo_mem (axis : Nat) (ys : List (COO α)) (s : Nat) :
    ∀ e ∈ stackGo axis s ys,
      ∃ y ∈ ys, ∃ k, ∃ e0 ∈ y.entries, e = (insertAt e0.1 axis k, e0.2) ∧ s ≤ k ∧ k < s + ys.length := by
  induction ys generalizing s with
  | nil => intro e he; simp [stackGo] at he
  | cons y ys ih =>
    intro e he
    rw [stackGo_cons] at he
    rcases List.mem_append.mp he with h | h
    · obtain ⟨e0, he0, rfl⟩ := List.mem_map.mp h
      exact ⟨y, List.mem_cons_self, s, e0, he0, rfl, Nat.le_refl _, by simp⟩
    · obtain ⟨z, hz, k, e0, he0, heq, h1, h2⟩ := ih _ e h
      exact ⟨z, List.mem_cons_of_mem _ hz, k, e0, he0, heq, by omega,
        by simp only [List.length_cons]; omega⟩

theorem stackCore_mem_entries (x0 : COO α) (rest : List (COO α)) (axis : Nat) (e : Idx × α)
    (he : e ∈ (stackCore x0 rest axis).entries) : e ∈ stackGo axis 0 (x0 :: rest) := by
  rw [stackCore_entries] at he
  split at he
  · exact he
  · exact mem_sortEntries.mp he

end COO

theorem concat_step (axis : Int) (x0 : COO Int) (rest : List (COO Int)) (d0 : Dense) (drest : List Dense)
    (hg : ∀ y ∈ x0 :: rest, Good y) (hr0 : Refines x0 d0) (hrr : RefinesL rest drest) :
    Sim (∀ y ∈ x0 :: rest, y.NoFill) (Expr.mConcat x0 rest axis) (Expr.sConcat d0 drest axis) := by
  have hall : RefinesL (x0 :: rest) (d0 :: drest) := RefinesL.cons hr0 hrr
  unfold Expr.mConcat Expr.sConcat
  rw [← sameFill_refines hr0 hrr, normAxis_eq_npAxis, ← hr0.shape]
  refine SimR.reject fun hsf => ?_
  cases hax : npAxis axis x0.shape.length with
  | error e => exact Sim.err e
  | ok ax =>
    simp only []
    have hsb : (rest.all fun y => y.shape.set ax 0 == x0.shape.set ax 0)
        = (drest.all fun y => y.shape.set ax 0 == x0.shape.set ax 0) :=
      all_refinesL (fun x d h => by rw [h.shape]) hrr
    rw [← hsb]
    refine SimR.reject fun hsb => ?_
    have haxlt : ax < x0.shape.length := npAxis_lt hax
    have hfill := forall_of_all_beq COO.fill hsf
    have hshape := forall_of_all_beq (fun y : COO Int => y.shape.set ax 0) hsb
    have hshape_r : ∀ y ∈ rest, y.shape.set ax 0 = x0.shape.set ax 0 := fun y hy => hshape y (List.mem_cons_of_mem _ hy)
    have hwf : ∀ y ∈ x0 :: rest, y.WF := fun y hy => (hg y hy).wf
    have hnd : ∀ y ∈ x0 :: rest, (keysOf y.entries).Nodup := fun y hy => (hg y hy).nodup
    have hrank : ∀ y ∈ x0 :: rest, ax < y.shape.length := fun y hy =>
      length_eq_of_set_eq (hshape y hy) ▸ haxlt
    obtain ⟨hsh, hfl, hget⟩ := C09.concat_get x0 rest ax hwf hnd haxlt hshape_r
      (fun y hy => hfill y (List.mem_cons_of_mem _ hy))
    have hwfr : (concatCore x0 rest ax).WF := by
      intro e he
      rw [hsh]
      exact concat_go_inb ax x0.shape haxlt (x0 :: rest) 0 _ hwf hshape (by omega) e
        (concatCore_mem_entries x0 rest ax e he)
    have hexts : ((d0 :: drest).map fun y => y.shape.getD ax 0) = exts (x0 :: rest) ax :=
      (exts_refinesL ax hall).symm
    refine Sim.ok ⟨hwfr, ?_⟩ ?_ ⟨?_, hfl.trans hr0.fill, ?_⟩
    · -- canonical order: the `sorted=` claim for axis 0, the constructor's sort otherwise
      by_cases h0 : ax = 0
      · subst h0
        exact C09.concat_axis0_sorted x0 rest hwf haxlt hshape_r (fun y hy => (hg y hy).sorted)
      · have hent : (concatCore x0 rest ax).entries
            = sortEntries (concatCore x0 rest ax).shape (concatCore.go ax (x0 :: rest) 0).1 := by
          simp only [concatCore, h0, if_false]
        rw [hent]
        refine sortEntries_sortedLin _ _ (concat_go_nodup ax (x0 :: rest) 0 hwf hrank hnd) fun e he => ?_
        exact hwfr e (hent ▸ mem_sortEntries.mpr he)
    · intro hnf e he
      obtain ⟨y, hy, o, e0, he0, heq⟩ := concat_go_mem ax (x0 :: rest) 0 e
        (concatCore_mem_entries x0 rest ax e he)
      rw [hfl, heq, ← hfill y hy]
      exact hnf y hy e0 he0
    · rw [hsh]
      show _ = d0.shape.set ax ((d0 :: drest).map fun y => y.shape.getD ax 0).sum
      rw [hexts, hr0.shape]
    · intro j hj
      rw [hsh] at hj
      obtain ⟨_, hin, hgj⟩ := hget j hj
      rw [hgj]
      show _ = ((d0 :: drest).getD (Expr.locateD ((d0 :: drest).map fun y => y.shape.getD ax 0) (j.getD ax 0)).1 d0).val
        (j.set ax (Expr.locateD ((d0 :: drest).map fun y => y.shape.getD ax 0) (j.getD ax 0)).2)
      rw [hexts, locateD_eq]
      exact (refines_getD hall x0 d0 hr0 _).val _ hin

theorem stack_step (axis : Int) (x0 : COO Int) (rest : List (COO Int)) (d0 : Dense) (drest : List Dense)
    (hg : ∀ y ∈ x0 :: rest, Good y) (hr0 : Refines x0 d0) (hrr : RefinesL rest drest) :
    Sim (∀ y ∈ x0 :: rest, y.NoFill) (Expr.mStack x0 rest axis) (Expr.sStack d0 drest axis) := by
  have hall : RefinesL (x0 :: rest) (d0 :: drest) := RefinesL.cons hr0 hrr
  have hsb : (rest.all fun y => y.shape == x0.shape) = (drest.all fun y => y.shape == x0.shape) :=
    all_refinesL (fun x d h => by rw [h.shape]) hrr
  unfold Expr.mStack Expr.sStack
  rw [← sameFill_refines hr0 hrr, normAxis_eq_npAxis, ← hr0.shape, ← hsb]
  refine SimR.reject fun hsf => SimR.reject fun hsb => ?_
  cases hax : npAxis axis (x0.shape.length + 1) with
  | error e => exact Sim.err e
  | ok ax =>
    simp only []
    have haxle : ax ≤ x0.shape.length := by have := npAxis_lt hax; omega
    have hfill := forall_of_all_beq COO.fill hsf
    have hshape := forall_of_all_beq COO.shape hsb
    have hwf : ∀ y ∈ x0 :: rest, y.WF := fun y hy => (hg y hy).wf
    have hnd : ∀ y ∈ x0 :: rest, (keysOf y.entries).Nodup := fun y hy => (hg y hy).nodup
    have hlen : ∀ y ∈ x0 :: rest, ∀ e ∈ y.entries, ax ≤ e.1.length := by
      intro y hy e he
      rw [InB_length (hwf y hy e he), hshape y hy]
      exact haxle
    obtain ⟨hsh, hfl, hget⟩ := C09.stack_get x0 rest ax hwf hnd haxle
      (fun y hy => hshape y (List.mem_cons_of_mem _ hy)) (fun y hy => hfill y (List.mem_cons_of_mem _ hy))
    have hwfr : (stackCore x0 rest ax).WF := by
      intro e he
      obtain ⟨y, hy, k, e0, he0, heq, _, hk⟩ := stackGo_mem ax (x0 :: rest) 0 e
        (stackCore_mem_entries x0 rest ax e he)
      rw [hsh, heq]
      refine (InB_insertAt_j e0.1 x0.shape ax k _ haxle).mpr ⟨?_, ?_⟩
      · simp only [List.length_cons] at hk; omega
      · rw [← hshape y hy]; exact hwf y hy e0 he0
    refine Sim.ok ⟨hwfr, ?_⟩ ?_ ⟨?_, hfl.trans hr0.fill, ?_⟩
    · -- canonical order: the `sorted=` claim for axis 0, the constructor's sort otherwise
      by_cases h0 : ax = 0
      · subst h0
        rw [stackCore_entries, if_pos rfl, hsh, insertAt_zero]
        exact stackGo_sorted0 x0.shape _ (x0 :: rest) 0 hwf hshape (fun y hy => (hg y hy).sorted)
      · have hent := stackCore_entries x0 rest ax
        rw [if_neg h0] at hent
        rw [hent]
        refine sortEntries_sortedLin _ _ (stackGo_nodup ax (x0 :: rest) 0 hlen hnd) fun e he => ?_
        exact hwfr e (hent ▸ mem_sortEntries.mpr he)
    · intro hnf e he
      obtain ⟨y, hy, k, e0, he0, heq, _, _⟩ := stackGo_mem ax (x0 :: rest) 0 e
        (stackCore_mem_entries x0 rest ax e he)
      rw [hfl, heq, ← hfill y hy]
      exact hnf y hy e0 he0
    · rw [hsh, length_refinesL hrr]
    · intro j hj
      rw [hsh] at hj
      obtain ⟨hform, hlt, hin⟩ := C09.stack_index_form x0.shape ax (rest.length + 1) haxle j hj
      have hgj := (hget (j.getD ax 0) (j.eraseIdx ax) hlt hin).2
      rw [← hform] at hgj
      rw [hgj]
      show _ = ((d0 :: drest).getD (j.getD ax 0) d0).val (j.eraseIdx ax)
      refine (refines_getD hall x0 d0 hr0 _).val _ ?_
      rw [hshape _ (getD_cons_mem x0 rest _)]
      exact hin

end SparseV
