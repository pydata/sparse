/-
  SparseV.Lemmas.GcxsGetitem — `_getitem` on an n-d GCXS array: the (rows, cols) problem in mask form, the three
  post-processing cases, and the refinement statement `r.tocoo.get j = g.tocoo.get (srcOf key j)`.
-/
import SparseV.Lemmas.GcxsVec
namespace SparseV
open COO Spec
namespace GIx

theorem newCaxes_eq : ∀ (c : Nat) (key : List NIx) (cm : List Bool),
    newCaxes c key cm = idxsFrom c (sel (key.map keyOut) cm)
  | _, [], _ => rfl
  | _, _ :: _, [] => rfl
  | c, k :: ks, b :: bs => by
    rw [newCaxes, List.map_cons]
    cases keyOut k with
    | true => rw [if_pos rfl, sel_true_cons, idxsFrom, newCaxes_eq (c + 1) ks bs]
    | false => rw [if_neg Bool.false_ne_true, sel_false_cons, newCaxes_eq c ks bs]

theorem any_zip_sel (p : NIx → Bool) : ∀ (key : List NIx) (cm : List Bool),
    (key.zip cm).any (fun q => p q.1 && q.2) = (sel (key.map p) cm).any id
  | [], _ => rfl
  | _ :: _, [] => rfl
  | k :: ks, b :: bs => by
    rw [List.zip_cons_cons, List.any_cons, List.map_cons, any_zip_sel p ks bs]
    cases p k with
    | true => rw [sel_true_cons, List.any_cons, Bool.true_and]; rfl
    | false => rw [sel_false_cons, Bool.false_and, Bool.false_or]

theorem any_zip_sel_not (p : NIx → Bool) (key : List NIx) (cm : List Bool) :
    (key.zip cm).any (fun q => p q.1 && !q.2) = (sel (key.map p) (cm.map not)).any id := by
  rw [← any_zip_sel, List.zip_map_right, List.any_map]
  rfl

/-- `j` is expanded to a multi-position `J` of the per-axis arrays by zeros on the integer axes, which are unit
axes, so the linear location `ρ` of the `m`-part of `j` is also the row-major number of the `m`-part of `J` -/
theorem index_core (key : List NIx) (S : List Nat) (hv : GValid key S) (m : List Bool) (hm : m.length = S.length)
    (j : Idx) (hj : InB j (sel (key.map keyOut) ((key.map keyArr).map List.length))) :
    InB (srcOf key j) S ∧
    ravel (sel (sel (key.map keyOut) m) j) (sel (sel (key.map keyOut) m) (sel (key.map keyOut) ((key.map keyArr).map List.length)))
      < prod ((sel m (key.map keyArr)).map List.length) ∧
    (convertToFlat (sel m (key.map keyArr)) (sel m S)).getD
        (ravel (sel (sel (key.map keyOut) m) j)
          (sel (sel (key.map keyOut) m) (sel (key.map keyOut) ((key.map keyArr).map List.length)))) 0
      = ravel (sel m (srcOf key j)) (sel m S) := by
  obtain ⟨hAll, hU⟩ := GValid_facts key S hv
  have hklen := GValid_length key S hv
  obtain ⟨hsel, hJin, hUnits⟩ := expandJ_facts _ _ j hU hj
  have hJlen : (expandJ (key.map keyOut) j).length = key.length := by rw [(Units_unitL hUnits).2, List.length_map]
  have hsm : (sel m (key.map keyArr)).map List.length = sel m ((key.map keyArr).map List.length) := (sel_map _ _ _).symm
  have hJm : InB (sel m (expandJ (key.map keyOut) j)) ((sel m (key.map keyArr)).map List.length) := by
    rw [hsm]; exact InB_sel m hJin
  have hsrc : srcOf key j = pick (key.map keyArr) (expandJ (key.map keyOut) j) := srcOf_eq_pick key j
  have hρ : ravel (sel (sel (key.map keyOut) m) j)
        (sel (sel (key.map keyOut) m) (sel (key.map keyOut) ((key.map keyArr).map List.length)))
      = ravel (sel m (expandJ (key.map keyOut) j)) ((sel m (key.map keyArr)).map List.length) := by
    conv => lhs; arg 1; arg 2; rw [← hsel]
    rw [sel_sel_comm (key.map keyOut) m (expandJ (key.map keyOut) j),
      sel_sel_comm (key.map keyOut) m ((key.map keyArr).map List.length), hsm]
    exact ravel_sel_units _ _ _ (Units_sel m _ _ _ hUnits)
  rw [hρ]
  refine ⟨?_, ravel_lt hJm, ?_⟩
  · rw [hsrc]; exact InB_pick hAll hJin
  · rw [convertToFlat_getD _ _ (AllLt_length (AllLt_sel m hAll)) _ hJm, hsrc,
      pick_sel m _ _ (by simp [hm, hklen]) (by rw [hJlen, hm, hklen])]

theorem any_true_filter (m : List Bool) (h : m.any id = true) : 0 < (m.filter id).length :=
  List.length_filter_pos_iff.mpr (List.any_eq_true.mp h)

theorem any_not_filter (m : List Bool) (h : (m.map not).any id = true) : (m.filter id).length < m.length := by
  rw [List.any_map] at h
  obtain ⟨x, hx, hn⟩ := List.any_eq_true.mp h
  exact List.length_filter_lt_length_iff_exists.mpr ⟨x, hx, by simpa using hn⟩

theorem flatMap_replicate_sorted (k : Nat → Nat) (R : Nat) (h : ∀ r, r < R → k r ≤ 1) :
    ((List.range R).flatMap fun r => List.replicate (k r) r).Pairwise (· < ·) := by
  rw [List.pairwise_flatMap]
  refine ⟨fun r hr => List.pairwise_replicate.mpr (Or.inl (h r (List.mem_range.mp hr))),
    List.pairwise_lt_range.imp ?_⟩
  intro a b hab x hx y hy
  rw [(List.mem_replicate.mp hx).2, (List.mem_replicate.mp hy).2]
  exact hab

theorem zip_replicate_zero : ∀ (l : List Nat) (z : List Nat), z.length = l.length → (∀ c ∈ z, c = 0) →
    l.zip z = l.map fun x => (x, 0)
  | [], _, _, _ => by simp
  | a :: l, c :: z, h, hz => by
    rw [List.zip_cons_cons, List.map_cons, hz c List.mem_cons_self,
      zip_replicate_zero l z (by simpa using h) (fun x hx => hz x (List.mem_cons_of_mem _ hx))]

theorem length_le_one_of_sorted_zero : ∀ (l : List Nat), l.Pairwise (· < ·) → (∀ x ∈ l, x = 0) → l.length ≤ 1
  | [], _, _ => by simp
  | [_], _, _ => by simp
  | a :: b :: l, hp, hz => by
    have h1 := hz a List.mem_cons_self
    have h2 := hz b (List.mem_cons_of_mem _ List.mem_cons_self)
    have := (List.pairwise_cons.mp hp).1 b List.mem_cons_self
    omega

/-- a side of the CSR view that no result axis touches: every key entry on the axes of the mask `m` is an integer -/
theorem unindexed_side (out m : List Bool) (L : List Nat) (hU : UnitL out L) (hm : m.length = out.length)
    (h : (sel out m).any id = false) :
    prod (sel m L) = 1 ∧ prod (sel (m.map not) L) = prod (sel out L) ∧
    ∀ j : Idx, j.length = (sel out L).length →
      ravel (sel (sel out m) j) (sel (sel out m) (sel out L)) = 0 ∧
      ravel (sel (sel out (m.map not)) j) (sel (sel out (m.map not)) (sel out L)) = ravel j (sel out L) := by
  have hL := UnitL_length hU
  have hm' : (m.map not).length = out.length := by rw [List.length_map, hm]
  have hid : ∀ x : List Nat, x.length = (sel out L).length → sel (sel out (m.map not)) x = x := fun x hx =>
    sel_all_true _ x (by rw [hx, sel_length _ _ hm', sel_length _ _ hL.symm]) (sel_not_all_true out m hm.symm h)
  refine ⟨?_, ?_, fun j hj => ?_⟩
  · rw [← prod_sel_unitL _ _ (UnitL_sel m out L hU), sel_sel_comm m out L, sel_all_false _ _ h]
    rfl
  · rw [← prod_sel_unitL _ _ (UnitL_sel (m.map not) out L hU), sel_sel_comm _ out L, hid _ rfl]
  · rw [sel_all_false _ j h, sel_all_false _ (sel out L) h, hid j hj, hid _ rfl]
    exact ⟨rfl, rfl⟩

theorem one_col_facts (R : Nat) (indptr indices : List Nat) (dat : List Int)
    (h : CsrWF R 1 indptr indices dat.length) :
    (uncompress indptr).Pairwise (· < ·) ∧ (∀ q ∈ uncompress indptr, q < R) ∧
    dat.length = (uncompress indptr).length ∧
    ∀ (d : Int) (q : Nat), q < R →
      rowGet ((uncompress indptr).zip dat) d q = rowGet (csrRow indptr indices dat q) d 0 := by
  obtain ⟨hU, hUlen⟩ := uncompress_csr h
  have hzero : ∀ c ∈ indices, c = 0 := fun c hc => Nat.lt_one_iff.mp (h.col_lt c hc)
  refine ⟨?_, ?_, by rw [hUlen, h.data_len], ?_⟩
  · rw [hU]
    apply flatMap_replicate_sorted
    intro r hr
    exact length_le_one_of_sorted_zero _ (h.row_sorted r hr) (fun x hx => hzero x (mem_rowSlice hx))
  · intro q hq
    rw [hU] at hq
    obtain ⟨r, hr, hqr⟩ := List.mem_flatMap.mp hq
    rw [(List.mem_replicate.mp hqr).2]
    exact List.mem_range.mp hr
  · intro d q hq
    obtain ⟨_, _, hlk⟩ := csr_facts h
    have := hlk d q 0
    rw [if_pos hq] at this
    rw [← this]
    unfold csrEntries
    rw [zip_replicate_zero (uncompress indptr) indices hUlen.symm hzero, List.zip_map_left, List.map_map]
    exact (lookup_map_inj (fun q => [q, 0]) (fun a b hab => by simpa using hab) _ d q).symm

theorem one_row_facts (C : Nat) (indptr indices : List Nat) (dat : List Int)
    (h : CsrWF 1 C indptr indices dat.length) :
    indices.Pairwise (· < ·) ∧ (∀ q ∈ indices, q < C) ∧ dat.length = indices.length ∧
    csrRow indptr indices dat 0 = indices.zip dat := by
  have e1 : rowSlice indices (indptr.getD 0 0) (indptr.getD (0 + 1) 0) = indices := by
    rw [h.ptr_zero, Nat.zero_add, h.ptr_last]; simp [rowSlice]
  have e2 : rowSlice dat (indptr.getD 0 0) (indptr.getD (0 + 1) 0) = dat := by
    rw [h.ptr_zero, Nat.zero_add, h.ptr_last, ← h.data_len]; simp [rowSlice]
  refine ⟨e1 ▸ h.row_sorted 0 Nat.zero_lt_one, h.col_lt, h.data_len, ?_⟩
  unfold csrRow
  rw [e1, e2]

end GIx

namespace GCXS
open GIx

theorem view_mask (shape c : List Nat) (m : List Bool) (hm : m = maskOf shape.length c) (hp : c.Pairwise (· < ·))
    (hlt : ∀ a ∈ c, a < shape.length) :
    csrR shape c = prod (sel m shape) ∧ csrC shape c = prod (sel (m.map not) shape) ∧
    ∀ i : Idx, i.length = shape.length →
      linOf shape c i = ravel (sel m i) (sel m shape) * prod (sel (m.map not) shape) +
        ravel (sel (m.map not) i) (sel (m.map not) shape) := by
  subst hm
  have hg := gather_axisOrder shape.length c shape hp hlt rfl
  have hlen := sel_maskOf_length _ c hp hlt shape rfl
  refine ⟨?_, ?_, ?_⟩
  · unfold csrR
    rw [hg, List.take_left' hlen]
  · unfold csrC
    rw [hg, List.drop_left' hlen]
  · intro i hi
    unfold linOf
    rw [hg, gather_axisOrder shape.length c i hp hlt hi]
    apply ravel_append
    rw [hlen, sel_maskOf_length _ c hp hlt i hi]

theorem keyRowsCols_mask (shape c : List Nat) (key : List NIx) (m : List Bool) (hm : m = maskOf shape.length c)
    (hp : c.Pairwise (· < ·)) (hlt : ∀ a ∈ c, a < shape.length) (hk : key.length = shape.length) :
    keyRowsCols shape c key =
      (convertToFlat (sel m (key.map keyArr)) (sel m shape),
       convertToFlat (sel (m.map not) (key.map keyArr)) (sel (m.map not) shape), posSliceOf (sel (m.map not) key)) := by
  subst hm
  unfold keyRowsCols
  simp only []
  rw [map_getD_axisOrder (NIx.int 0) _ c key hp hlt hk, gather_axisOrder shape.length c shape hp hlt rfl,
    List.map_append, ← sel_map, ← sel_map,
    List.take_left' (sel_maskOf_length _ c hp hlt _ (by rw [List.length_map, hk])),
    List.drop_left' (sel_maskOf_length _ c hp hlt _ (by rw [List.length_map, hk])),
    List.take_left' (sel_maskOf_length _ c hp hlt shape rfl), List.drop_left' (sel_maskOf_length _ c hp hlt shape rfl),
    List.drop_left' (sel_maskOf_length _ c hp hlt key hk)]

theorem tocoo_get_mask (g : GCXS Int) (c : List Nat) (m : List Bool) (hm : m = maskOf g.shape.length c)
    (hc : g.caxes = some c) (hwf : g.WF) (i : Idx) (hi : InB i g.shape) :
    g.tocoo.get i =
      rowGet (csrRow g.indptr g.indices g.data (ravel (sel m i) (sel m g.shape))) g.fill
        (ravel (sel (m.map not) i) (sel (m.map not) g.shape)) := by
  obtain ⟨⟨_, _, hpw, hclt⟩, _⟩ := (WF_iff hc).mp hwf
  obtain ⟨_, hC, hlin⟩ := view_mask g.shape c m hm hpw hclt
  exact tocoo_get_at g c hc hwf hi hC (hlin i (InB_length hi)) (ravel_lt (InB_sel (m.map not) hi))

/-- the selection step of `_getitem` on an n-d array -/
theorem select_index (g : GCXS Int) (c : List Nat) (m : List Bool) (hm : m = maskOf g.shape.length c)
    (hc : g.caxes = some c) (hwf : g.WF) (key : List NIx) (hv : GValid key g.shape) :
    ∃ s dat,
      g.select (convertToFlat (sel m (key.map keyArr)) (sel m g.shape))
        (convertToFlat (sel (m.map not) (key.map keyArr)) (sel (m.map not) g.shape))
        (posSliceOf (sel (m.map not) key)) = .ok (s, dat) ∧
      CsrWF (prod (sel m ((key.map keyArr).map List.length)))
        (prod (sel (m.map not) ((key.map keyArr).map List.length))) s.indptr s.indices dat.length ∧
      ∀ j, InB j (sel (key.map keyOut) ((key.map keyArr).map List.length)) →
        InB (srcOf key j) g.shape ∧
        rowGet (csrRow s.indptr s.indices dat
            (ravel (sel (sel (key.map keyOut) m) j)
              (sel (sel (key.map keyOut) m) (sel (key.map keyOut) ((key.map keyArr).map List.length)))))
          g.fill
          (ravel (sel (sel (key.map keyOut) (m.map not)) j)
            (sel (sel (key.map keyOut) (m.map not)) (sel (key.map keyOut) ((key.map keyArr).map List.length))))
          = g.tocoo.get (srcOf key j) := by
  obtain ⟨⟨_, _, hpw, hclt⟩, hcsr⟩ := (WF_iff hc).mp hwf
  obtain ⟨hR, hC, _⟩ := view_mask g.shape c m hm hpw hclt
  obtain ⟨hAll, hU⟩ := GValid_facts key g.shape hv
  have hcml : m.length = g.shape.length := by rw [hm, maskOf_length]
  have hcml' : (m.map not).length = g.shape.length := by rw [List.length_map, hcml]
  have hrows : ∀ r ∈ convertToFlat (sel m (key.map keyArr)) (sel m g.shape), r < csrR g.shape c := by
    rw [hR]; exact convertToFlat_lt _ _ (AllLt_sel _ hAll)
  have hcols : posSliceOf (sel (m.map not) key) = true →
      (convertToFlat (sel (m.map not) (key.map keyArr)) (sel (m.map not) g.shape)).Pairwise (· < ·) := by
    intro hp
    apply convertToFlat_sorted _ _ (AllLt_sel _ hAll)
    rw [sel_map]
    exact posSlice_strict _ _ (GValid_sel _ key g.shape hv) hp
  obtain ⟨s, dat, hsel, hscsr, hlk⟩ := select_spec g _ _ hcsr _ _ hrows _ hcols
  rw [convertToFlat_length _ _ (AllLt_length (AllLt_sel _ hAll)),
    convertToFlat_length _ _ (AllLt_length (AllLt_sel _ hAll)), ← sel_map, ← sel_map] at hscsr
  refine ⟨s, dat, hsel, hscsr, fun j hj => ?_⟩
  obtain ⟨hi, hρ, hrow⟩ := index_core key g.shape hv _ hcml j hj
  obtain ⟨_, hκ, hcol⟩ := index_core key g.shape hv _ hcml' j hj
  refine ⟨hi, ?_⟩
  rw [hlk g.fill _ _
    (by rw [convertToFlat_length _ _ (AllLt_length (AllLt_sel _ hAll))]; exact hρ)
    (by rw [convertToFlat_length _ _ (AllLt_length (AllLt_sel _ hAll))]; exact hκ),
    hrow, hcol, tocoo_get_mask g c m hm hc hwf _ hi]

/-- `_getitem` refines NumPy indexing (array results): all three post-processing cases (both kinds of axes
indexed / only compressed / only uncompressed), both selection kernels, every `compressed_axes` -/
theorem getitemCore_spec (g : GCXS Int) (key : List NIx) (hwf : g.WF) (hv : GValid key g.shape)
    (ho : key.any keyOut = true) :
    ∃ r, g.getitemCore key = .ok (.arr r) ∧ r.shape = gOutShape key ∧ r.fill = g.fill ∧ (r.WF ∨ r.WF1) ∧
      r.tocoo.shape = gOutShape key ∧ r.tocoo.fill = g.fill ∧
      ∀ j, InB j (gOutShape key) → InB (srcOf key j) g.shape ∧ r.tocoo.get j = g.tocoo.get (srcOf key j) := by
  obtain ⟨c, hc⟩ := WF_some hwf
  obtain ⟨⟨_, _, hpw, hclt⟩, hcsr⟩ := (WF_iff hc).mp hwf
  have hk := GValid_length key g.shape hv
  obtain ⟨hAll, hU⟩ := GValid_facts key g.shape hv
  have hall : key.all (fun k => !keyOut k) = false := by simp [List.all_eq_not_any_not, ho]
  obtain ⟨s, dat, hsel, hscsr, hget⟩ := select_index g c _ rfl hc hwf key hv
  have hm : (List.map (fun a => c.contains a) (List.range g.shape.length)) = maskOf g.shape.length c := rfl
  have hshape : gOutShape key = sel (key.map keyOut) ((key.map keyArr).map List.length) := by
    unfold gOutShape
    rw [filter_map_sel, List.map_map]
    rfl
  unfold getitemCore
  rw [hc]
  simp only [hall, Bool.false_eq_true, if_false]
  rw [keyRowsCols_mask g.shape c key _ rfl hpw hclt hk]
  simp only [hsel]
  rw [hm, any_zip_sel_not, any_zip_sel, newCaxes_eq]
  have hshape' : List.map (fun k => (keyArr k).length) (List.filter keyOut key) = gOutShape key := rfl
  rw [hshape', hshape]
  have hcml : (maskOf g.shape.length c).length = (key.map keyOut).length := by rw [maskOf_length]; simp [hk]
  have hcml' : ((maskOf g.shape.length c).map not).length = (key.map keyOut).length := by simp [maskOf_length, hk]
  have hLlen : ((key.map keyArr).map List.length).length = (key.map keyOut).length := by simp
  generalize hout : key.map keyOut = out at *
  generalize hL : (key.map keyArr).map List.length = L at *
  generalize hcm : maskOf g.shape.length c = cm at *
  have hrank : 1 ≤ (sel out L).length := by
    rw [sel_length _ _ hLlen]
    apply any_true_filter
    rw [← hout, List.any_map]
    exact ho
  cases hanyU : (sel out (cm.map not)).any id
  case true =>
    cases hanyC : (sel out cm).any id
    case true =>
      simp only [Bool.not_true, Bool.false_eq_true, if_false]
      have hnlen : (sel out L).length = (sel out cm).length := by
        rw [sel_length _ _ hLlen, sel_length _ _ hcml]
      have hmask : maskOf (sel out L).length (idxsFrom 0 (sel out cm)) = sel out cm := by
        rw [hnlen]; exact maskOf_idxsFrom _
      have hnot : (sel out cm).map not = sel out (cm.map not) := (sel_map_not out cm).symm
      have hpwR : (idxsFrom 0 (sel out cm)).Pairwise (· < ·) := idxsFrom_sorted _ _
      have hltR : ∀ a ∈ idxsFrom 0 (sel out cm), a < (sel out L).length := by
        intro a ha
        rw [hnlen]
        exact ((mem_idxsFrom _ 0 a).mp ha).2.1
      obtain ⟨hRv, hCv, _⟩ := view_mask (sel out L) (idxsFrom 0 (sel out cm)) _ hmask.symm hpwR hltR
      have hRR : csrR (sel out L) (idxsFrom 0 (sel out cm)) = prod (sel cm L) := by
        rw [hRv, sel_sel_comm out cm L, prod_sel_unitL _ _ (UnitL_sel cm out L hU)]
      have hCC : csrC (sel out L) (idxsFrom 0 (sel out cm)) = prod (sel (cm.map not) L) := by
        rw [hCv, hnot, sel_sel_comm out (cm.map not) L, prod_sel_unitL _ _ (UnitL_sel (cm.map not) out L hU)]
      have hwfR : (GCXS.mk (sel out L) (some (idxsFrom 0 (sel out cm))) s.indptr s.indices dat g.fill).WF := by
        refine (WF_iff rfl).mpr ⟨⟨?_, ?_, hpwR, hltR⟩, by rw [hRR, hCC]; exact hscsr⟩
        · intro h
          have h1 := any_true_filter _ hanyC
          rw [← idxsFrom_length _ 0, h] at h1
          exact Nat.lt_irrefl 0 h1
        · rw [idxsFrom_length, hnlen]
          exact any_not_filter _ (by rw [hnot]; exact hanyU)
      obtain ⟨t1, t2, _, _, _⟩ := tocoo_get _ (idxsFrom 0 (sel out cm)) rfl hwfR
      refine ⟨_, rfl, rfl, rfl, Or.inl hwfR, t1, t2, fun j hj => ?_⟩
      obtain ⟨hi, hg⟩ := hget j hj
      refine ⟨hi, ?_⟩
      rw [tocoo_get_mask _ (idxsFrom 0 (sel out cm)) _ hmask.symm rfl hwfR j hj, ← hg, hnot]
    case false =>
      -- only uncompressed axes: one row, whose column numbers are the linear positions in the result
      simp only [Bool.not_true, Bool.not_false, Bool.false_eq_true, if_false, if_true]
      obtain ⟨hR1, hC, hidx⟩ := unindexed_side out cm L hU hcml hanyC
      rw [hR1] at hscsr
      obtain ⟨q1, q2, q3, q4⟩ := one_row_facts _ _ _ _ hscsr
      obtain ⟨v1, v2, v3, v4, v5, v6⟩ := vecResult_spec (sel out L) s.indices dat g.fill hrank q1
        (fun q hq => by rw [← hC]; exact q2 q hq) q3
      refine ⟨_, rfl, v1, v2, v3, v4, v5, fun j hj => ?_⟩
      obtain ⟨hi, hg⟩ := hget j hj
      rw [(hidx j (InB_length hj)).1, (hidx j (InB_length hj)).2, q4] at hg
      exact ⟨hi, (v6 j hj).trans hg⟩
  case false =>
    -- only compressed axes: one column, the row numbers are the linear positions in the result
    simp only [Bool.not_false, if_true]
    obtain ⟨hC1, hR, hidx⟩ := unindexed_side out (cm.map not) L hU hcml' hanyU
    rw [map_not_not] at hR hidx
    rw [hC1] at hscsr
    obtain ⟨q1, q2, q3, q4⟩ := one_col_facts _ _ _ _ hscsr
    obtain ⟨v1, v2, v3, v4, v5, v6⟩ := vecResult_spec (sel out L) (uncompress s.indptr) dat g.fill hrank q1
      (fun q hq => by rw [← hR]; exact q2 q hq) q3
    refine ⟨_, rfl, v1, v2, v3, v4, v5, fun j hj => ?_⟩
    obtain ⟨hi, hg⟩ := hget j hj
    rw [(hidx j (InB_length hj)).1, (hidx j (InB_length hj)).2] at hg
    rw [v6 j hj, q4 g.fill _ (by rw [hR]; exact ravel_lt hj)]
    exact ⟨hi, hg⟩

theorem srcOf_ints : ∀ (key : List NIx), key.any keyOut = false → srcOf key [] = key.map keyInt
  | [], _ => rfl
  | .int v :: rest, h => congrArg (v.toNat :: ·) (srcOf_ints rest h)

theorem getD_map_keyInt (key : List NIx) (a : Nat) : (key.map keyInt).getD a 0 = keyInt (key.getD a (.int 0)) := by
  simp only [List.getD_eq_getElem?_getD, List.getElem?_map]
  cases key[a]? with
  | none => simp [keyInt]
  | some k => simp

/-- `get_single_element`: a valid all-integer key -/
theorem getitemCore_scalar (g : GCXS Int) (key : List NIx) (hwf : g.WF) (hv : GValid key g.shape)
    (ho : key.any keyOut = false) :
    g.getitemCore key = .ok (.scalar (g.tocoo.get (srcOf key []))) ∧ InB (srcOf key []) g.shape := by
  obtain ⟨c, hc⟩ := WF_some hwf
  obtain ⟨hok, hcsr⟩ := (WF_iff hc).mp hwf
  have hall : key.all (fun k => !keyOut k) = true := by simp [List.all_eq_not_any_not, ho]
  obtain ⟨hAll, hU⟩ := GValid_facts key g.shape hv
  have hi : InB (srcOf key []) g.shape := by
    have hj : InB ([] : Idx) (sel (key.map keyOut) ((key.map keyArr).map List.length)) := by
      rw [sel_all_false _ _ (by rw [List.any_map]; exact ho)]; trivial
    exact (index_core key g.shape hv (maskOf g.shape.length c) (maskOf_length _ _) [] hj).1
  refine ⟨?_, hi⟩
  unfold getitemCore
  rw [hc]
  simp only [hall, if_true]
  refine congrArg (fun v => Except.ok (GResult.scalar v)) ?_
  unfold getSingle
  have hrk : (axisOrder g.shape.length c).map (fun a => keyInt (key.getD a (.int 0)))
      = gather (srcOf key []) (axisOrder g.shape.length c) := by
    rw [srcOf_ints key ho]
    unfold gather
    apply List.map_congr_left
    intro a _
    rw [getD_map_keyInt]
  simp only []
  rw [hrk]
  have hlinD : ravel (gather (srcOf key []) (axisOrder g.shape.length c)) (gather g.shape (axisOrder g.shape.length c))
      = linOf g.shape c (srcOf key []) := rfl
  have hCD : prod (List.drop c.length (gather g.shape (axisOrder g.shape.length c))) = csrC g.shape c := rfl
  rw [hlinD, hCD, (tocoo_get g c hc hwf).2.2.2.2 _ hi]
  exact getSingle_row _ _ hcsr.data_len _ _ _ _ (hcsr.row_sorted _ (divmod_lt (linOf_lt g.shape c hok.perm hi)).1)

/-- for keys without index arrays, validity, result shape and operand index are those of the COO theorems of
`Props/C02` (`Spec.ValidIdx`, `outShape`, `Spec.compose`) -/
theorem basic_key_facts : ∀ (key : List NIx) (shape : List Nat), GValid key shape → NoArr key →
    ValidIdx key shape ∧ gOutShape key = outShape key false ∧ hasOut key = key.any keyOut ∧
    ∀ j, InB j (gOutShape key) → srcOf key j = compose key j
  | [], [], _, _ => ⟨trivial, rfl, rfl, fun _ _ => rfl⟩
  | .int n :: rest, d :: ds, hv, hn =>
    have ⟨h1, h2, h3, h4⟩ := basic_key_facts rest ds hv.2 hn
    ⟨⟨hv.1, h1⟩, h2, h3, fun j hj => congrArg (n.toNat :: ·) (h4 j hj)⟩
  | .slice a b s :: rest, d :: ds, hv, hn => by
    obtain ⟨h1, h2, h3, h4⟩ := basic_key_facts rest ds hv.2 hn
    have hg : gOutShape (.slice a b s :: rest) = sliceLen a b s :: gOutShape rest :=
      congrArg (· :: gOutShape rest) (arange_length a s _)
    refine ⟨⟨hv.1, h1⟩, hg.trans (congrArg (sliceLen a b s :: ·) h2), rfl, fun j hj => ?_⟩
    rw [hg] at hj
    match j, hj with
    | t :: j', hj =>
      show (arange a s (sliceLen a b s)).getD t 0 :: srcOf rest j' = (a + (t : Int) * s).toNat :: compose rest j'
      rw [arange_getD a s _ t hj.1, h4 j' hj.2]

theorem isFull_noArr : ∀ (idx : List NIx) (shape : List Nat), idx.length = shape.length →
    ((List.zip idx shape).all fun p => match p.1 with
      | .slice a b s => decide (a = 0 ∧ b = (p.2 : Int) ∧ s = 1)
      | _ => false) = true → NoArr idx
  | [], _, _, _ => trivial
  | k :: rest, d :: ds, hl, h => by
    rw [List.zip_cons_cons, List.all_cons, Bool.and_eq_true] at h
    cases k with
    | slice a b s => exact isFull_noArr rest ds (by simpa using hl) h.2
    | int _ | newaxis | arr _ => exact absurd h.1 Bool.false_ne_true

/-- **`getitem` (full-slice shortcut included) refines NumPy indexing.** -/
theorem getitemN_spec (g : GCXS Int) (key : List NIx) (hwf : g.WF) (hv : GValid key g.shape)
    (ho : key.any keyOut = true) :
    ∃ r, g.getitemN key = .ok (.arr r) ∧ r.shape = gOutShape key ∧ r.fill = g.fill ∧ (r.WF ∨ r.WF1) ∧
      r.tocoo.shape = gOutShape key ∧ r.tocoo.fill = g.fill ∧
      ∀ j, InB j (gOutShape key) → InB (srcOf key j) g.shape ∧ r.tocoo.get j = g.tocoo.get (srcOf key j) := by
  unfold getitemN
  by_cases hfull : isFullIndex key g.shape = true
  · rw [if_pos hfull]
    have hf := hfull
    unfold isFullIndex at hf
    simp only [Bool.and_eq_true, decide_eq_true_eq] at hf
    obtain ⟨_, hsh, _, hsrc⟩ := basic_key_facts key g.shape hv (isFull_noArr key g.shape hf.1.1 hf.2)
    obtain ⟨hsh2, hcomp⟩ := isFullIndex_spec false key g.shape hfull
    have hshape : gOutShape key = g.shape := by rw [hsh, hsh2]
    obtain ⟨c, hc⟩ := WF_some hwf
    obtain ⟨t1, t2, _, _, _⟩ := tocoo_get g c hc hwf
    refine ⟨g, rfl, hshape.symm, rfl, Or.inl hwf, by rw [t1, hshape], t2, fun j hj => ?_⟩
    rw [hsrc j hj, hcomp j (by rw [InB_length hj, hshape])]
    exact ⟨by rw [← hshape]; exact hj, rfl⟩
  · rw [if_neg hfull]
    exact getitemCore_spec g key hwf hv ho

end GCXS
end SparseV
