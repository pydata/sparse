/-
  SparseV.Lemmas.SharedReads — invariants behind the shared-dictionary and warning-filter theorems of
  Props/C13.lean: DInv (the dictionary is untouched, every iterator was created on it, what a call
  has seen so far is a prefix of what it sees alone) and WInv (no installed, saved or pending filter
  can turn a catalogued warning into an error), and their preservation by every step of every thread.
-/
import SparseV.Model.SharedReads
import SparseV.Lemmas.Interleave
namespace SparseV.C13
open SparseV SparseV.Interleave SparseV.Shared

theorem nextIn_none : ∀ (es : List (Option Item)) (p : Nat), nextIn es p = none → items es = []
  | [], _, _ => rfl
  | some _ :: _, _, h => by cases h
  | none :: r, p, h => nextIn_none r (p + 1) h

theorem nextIn_some : ∀ (es : List (Option Item)) (p : Nat) (it : Item) (p' : Nat), nextIn es p = some (it, p') →
    ∃ k, p' = p + k ∧ items es = it :: items (es.drop k)
  | [], _, _, _, h => by cases h
  | some x :: r, p, it, p', h => by
    simp only [nextIn, Option.some.injEq, Prod.mk.injEq] at h
    exact ⟨1, h.2.symm, by rw [← h.1]; rfl⟩
  | none :: r, p, it, p', h => by
    obtain ⟨k, hk, hi⟩ := nextIn_some r (p + 1) it p' h
    exact ⟨k + 1, by omega, hi⟩

theorem nextFrom_none {d : Dict} {pos : Nat} (h : nextFrom d pos = none) : items (d.drop pos) = [] :=
  nextIn_none _ _ h

theorem nextFrom_some {d : Dict} {pos pos' : Nat} {it : Item} (h : nextFrom d pos = some (it, pos')) :
    items (d.drop pos) = it :: items (d.drop pos') := by
  obtain ⟨k, rfl, hi⟩ := nextIn_some _ _ _ _ h
  rw [hi, List.drop_drop]

/-- The call in progress agrees with running alone on `d0`: what it has seen so far, then `left`
(what its current loop has still to yield), then the whole dictionary once per remaining statement
make up what it sees alone; and the remaining statements only read. -/
def FrameOK (d0 : Dict) (f : Frame) (left : List Item) : Prop :=
  Op.isRead f.rest = true ∧ f.seen ++ left ++ seqSeen d0 f.rest = seqSeen d0 f.op

def DPcOK (d0 : Dict) : DPc → Prop
  | .idle => True
  | .run f => FrameOK d0 f []
  | .iter f mode u pos rem _ =>
    mode ≠ .prune ∧ u = used d0 ∧ rem = (items (d0.drop pos)).length ∧ FrameOK d0 f (items (d0.drop pos))
  | .body f u pos rem => u = used d0 ∧ rem = (items (d0.drop pos)).length ∧ FrameOK d0 f (items (d0.drop pos))
  | .dels _ _ => False

def DThOK (d0 : Dict) (th : DThread) : Prop :=
  (∀ op ∈ th.todo, Op.isRead op = true) ∧ (∀ r ∈ th.rets, r.2 = .ok (seqSeen d0 r.1)) ∧ DPcOK d0 th.pc

def DInv (d0 : Dict) (s : DState) : Prop := s.dict = d0 ∧ ∀ th ∈ s.threads, DThOK d0 th

theorem frameOK_cons {d0 : Dict} {f : Frame} {st : Stmt} {rest : List Stmt} (h : FrameOK d0 f [])
    (hr : f.rest = st :: rest) :
    st.isRead = true ∧ Op.isRead rest = true ∧ f.seen ++ items d0 ++ seqSeen d0 rest = seqSeen d0 f.op := by
  obtain ⟨h1, h2⟩ := h
  rw [hr] at h1 h2
  simp only [Op.isRead, List.all_cons, Bool.and_eq_true] at h1
  refine ⟨h1.1, h1.2, ?_⟩
  rw [← h2, List.append_nil, List.append_assoc]
  rfl

theorem dstep_inv (d0 : Dict) (t : Nat) (s : DState) (h : DInv d0 s) : DInv d0 (dstep t s) := by
  obtain ⟨hd, hth⟩ := h
  subst hd
  unfold dstep
  cases ht : s.threads[t]? with
  | none => exact ⟨rfl, hth⟩
  | some th =>
    obtain ⟨htodo, hrets, hpc⟩ := hth th (List.mem_of_getElem? ht)
    obtain ⟨pc, todo, rets⟩ := th
    cases pc with
    | idle =>
      cases todo with
      | nil => exact ⟨rfl, hth⟩
      | cons op ops =>
        obtain ⟨hop, hops⟩ := List.forall_mem_cons.mp htodo
        exact ⟨rfl, forall_set hth ⟨hops, hrets, hop, rfl⟩⟩
    | run f =>
      simp only
      cases hrest : f.rest with
      | nil =>
        -- the call returns what it has seen: all of what it sees alone
        have hseen : f.seen = seqSeen s.dict f.op := by
          rw [← hpc.2, hrest]
          simp only [seqSeen, List.flatMap_nil, List.append_nil]
        exact ⟨rfl, forall_set hth ⟨htodo, List.forall_mem_cons.mpr ⟨by rw [hseen], hrets⟩, trivial⟩⟩
      | cons st rest =>
        obtain ⟨hst, hr, hs⟩ := frameOK_cons hpc hrest
        cases st with
        | snapshot => exact ⟨rfl, forall_set hth ⟨htodo, hrets, hr, by rw [List.append_nil]; exact hs⟩⟩
        | iterItems => exact ⟨rfl, forall_set hth ⟨htodo, hrets, by decide, rfl, rfl, hr, hs⟩⟩
        | scanItems => exact ⟨rfl, forall_set hth ⟨htodo, hrets, by decide, rfl, rfl, hr, hs⟩⟩
        | pruneFill => cases hst
        | setItem k v => cases hst
        | delItem k => cases hst
    | iter f mode u pos rem acc =>
      obtain ⟨hm, hu, hrem, hf⟩ := hpc
      simp only
      rw [if_neg (Decidable.not_not.mpr hu.symm)]
      cases hn : nextFrom s.dict pos with
      | none =>
        -- the loop is over: nothing was left to yield
        rw [nextFrom_none hn] at hf
        cases mode with
        | prune => exact absurd rfl hm
        | loop => exact ⟨rfl, forall_set hth ⟨htodo, hrets, hf⟩⟩
        | comp => exact ⟨rfl, forall_set hth ⟨htodo, hrets, hf⟩⟩
      | some r =>
        obtain ⟨it, pos'⟩ := r
        -- the item fetched is the first of those still expected
        have hnext := nextFrom_some hn
        rw [hnext] at hrem hf
        have hf' : FrameOK s.dict { f with seen := f.seen ++ [it] } (items (s.dict.drop pos')) :=
          ⟨hf.1, by rw [← hf.2, List.append_assoc f.seen]; rfl⟩
        simp only
        rw [if_neg (by rw [hrem]; exact Nat.succ_ne_zero _)]
        have hrem' : rem - 1 = (items (s.dict.drop pos')).length := by rw [hrem]; rfl
        cases mode with
        | prune => exact absurd rfl hm
        | loop => exact ⟨rfl, forall_set hth ⟨htodo, hrets, hu, hrem', hf'⟩⟩
        | comp => exact ⟨rfl, forall_set hth ⟨htodo, hrets, hm, hu, hrem', hf'⟩⟩
    | body f u pos rem => exact ⟨rfl, forall_set hth ⟨htodo, hrets, by decide, hpc⟩⟩
    | dels f ks => exact hpc.elim

theorem dinit_inv (d0 : Dict) (progs : List (List Op)) (hp : ∀ p ∈ progs, ∀ op ∈ p, Op.isRead op = true) :
    DInv d0 (dinit d0 progs) :=
  ⟨rfl, List.forall_mem_map.mpr fun p hpm => ⟨hp p hpm, List.forall_mem_nil _, trivial⟩⟩

theorem dquantum_is_fine (fuel : Nat) :
    ∀ (t : Nat) (s : DState), (dquantum fuel t s).1 = runSched dstep (dquantum fuel t s).2 s := by
  induction fuel with
  | zero => intro t s; rfl
  | succ n ih =>
    intro t s
    simp only [dquantum]
    split
    · exact ih t (dstep t s)
    · rfl

def Benign (cat : List Warn) (fs : List Filter) : Prop := ∀ f ∈ fs, harmful cat f = false

theorem benign_iff {cat : List Warn} {fs : List Filter} : benign cat fs = true ↔ Benign cat fs := by
  simp only [benign, Benign, List.all_eq_true, Bool.not_eq_eq_eq_not, Bool.not_true]

theorem emit_ok_of_benign {cat : List Warn} {fs : List Filter} {w : Warn} (hb : Benign cat fs) (hw : w ∈ cat) :
    emit fs w = .ok () := by
  unfold emit
  cases hf : fs.find? (fun f => f.matches w) with
  | none => rfl
  | some f =>
    -- the filter found matches a catalogued warning: with the action "error" it would be harmful
    have hh : harmful cat f = false := hb f (List.mem_of_find?_eq_some hf)
    have hm := List.find?_some hf
    have hany : cat.any f.matches = true := List.any_eq_true.mpr ⟨w, hw, hm⟩
    simp only [harmful, hany, Bool.or_true, Bool.and_true, beq_eq_false_iff_ne] at hh
    exact if_neg hh

theorem benign_insertFront {cat : List Warn} {f : Filter} {fs : List Filter} (hf : harmful cat f = false) (hfs : Benign cat fs) :
    Benign cat (insertFront f fs) := by
  intro g hg
  rcases List.mem_cons.mp hg with hg | hg
  · rw [hg]; exact hf
  · exact hfs g (List.mem_of_mem_erase hg)

def WOpOK (cat : List Warn) : WOp → Prop
  | .block fs => Benign cat fs
  | .warn w => w ∈ cat

def WPcOK (cat : List Warn) : WPc → Prop
  | .idle => True
  | .enter fs => Benign cat fs
  | .install _ saved fs => Benign cat saved ∧ Benign cat fs
  | .exit _ saved => Benign cat saved
  | .emitting w => w ∈ cat

def WThOK (cat : List Warn) (th : WThread) : Prop :=
  (∀ op ∈ th.todo, WOpOK cat op) ∧ (∀ r ∈ th.rets, r.2 = .ok ()) ∧ WPcOK cat th.pc

def WInv (cat : List Warn) (s : WState) : Prop := Benign cat s.filters ∧ ∀ th ∈ s.threads, WThOK cat th

theorem wstep_inv (cat : List Warn) (t : Nat) (s : WState) (h : WInv cat s) : WInv cat (wstep t s) := by
  obtain ⟨hfl, hth⟩ := h
  unfold wstep
  cases ht : s.threads[t]? with
  | none => exact ⟨hfl, hth⟩
  | some th =>
    obtain ⟨htodo, hrets, hpc⟩ := hth th (List.mem_of_getElem? ht)
    obtain ⟨pc, todo, rets⟩ := th
    cases pc with
    | idle =>
      cases todo with
      | nil => exact ⟨hfl, hth⟩
      | cons op ops =>
        obtain ⟨hop, hops⟩ := List.forall_mem_cons.mp htodo
        cases op with
        | block fs => exact ⟨hfl, forall_set hth ⟨hops, hrets, hop⟩⟩
        | warn w => exact ⟨hfl, forall_set hth ⟨hops, hrets, hop⟩⟩
    | enter fs => exact ⟨hfl, forall_set hth ⟨htodo, hrets, hfl, hpc⟩⟩
    | install b saved fs =>
      cases fs with
      | nil => exact ⟨hfl, forall_set hth ⟨htodo, hrets, hpc.1⟩⟩
      | cons f fs =>
        obtain ⟨hf, hfs⟩ := List.forall_mem_cons.mp hpc.2
        exact ⟨benign_insertFront hf hfl, forall_set hth ⟨htodo, hrets, hpc.1, hfs⟩⟩
    | exit b saved => exact ⟨hpc, forall_set hth ⟨htodo, List.forall_mem_cons.mpr ⟨rfl, hrets⟩, trivial⟩⟩
    | emitting w =>
      exact ⟨hfl, forall_set hth ⟨htodo, List.forall_mem_cons.mpr ⟨emit_ok_of_benign hfl hpc, hrets⟩, trivial⟩⟩

theorem winit_inv (cat : List Warn) (fs : List Filter) (hfs : Benign cat fs) (progs : List (List WOp))
    (hp : ∀ p ∈ progs, ∀ op ∈ p, WOpOK cat op) : WInv cat (winit fs progs) :=
  ⟨hfs, List.forall_mem_map.mpr fun p hpm => ⟨hp p hpm, List.forall_mem_nil _, trivial⟩⟩

end SparseV.C13
