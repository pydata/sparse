/-
  SparseV.Lemmas.GcxsRows — the row view of a well-formed CSR triple and `GCXS.tocoo` in terms of it:
  `(tocoo g).get i` is the lookup of `[row, column]` in the flat entry list, the row is
  `indices[indptr[r]:indptr[r+1]]` zipped with the same slice of `data`; `GCXS.WF` as admissible compressed axes
  plus a well-formed CSR triple of the view.
-/
import SparseV.Lemmas.Compress
import SparseV.Model.GcxsIndex
namespace SparseV
open COO

namespace GIx

theorem rowSlice_length {β : Type} (l : List β) (a b : Nat) : (rowSlice l a b).length = min b l.length - a := by
  simp [rowSlice]

theorem take_eq_flatMap_slices {β : Type} (l : List β) (p : Nat → Nat) (h0 : p 0 = 0) :
    ∀ k, (∀ r, r < k → p r ≤ p (r + 1)) →
      l.take (p k) = (List.range k).flatMap fun r => rowSlice l (p r) (p (r + 1))
  | 0, _ => by simp [h0]
  | k + 1, hm => by
    rw [List.range_succ, List.flatMap_append, ← take_eq_flatMap_slices l p h0 k (fun r hr => hm r (by omega))]
    simp only [List.flatMap_cons, List.flatMap_nil, List.append_nil, rowSlice]
    have h := List.take_append_drop (p k) (l.take (p (k + 1)))
    rw [List.take_take, Nat.min_eq_left (hm k (by omega))] at h
    exact h.symm

theorem mono_le (p : Nat → Nat) : ∀ (k r : Nat), (∀ r, r < k → p r ≤ p (r + 1)) → r ≤ k → p r ≤ p k
  | 0, _, _, h => Nat.le_zero.mp h ▸ Nat.le_refl _
  | k + 1, r, hm, h => by
    rcases Nat.lt_or_eq_of_le h with h | rfl
    · exact Nat.le_trans (mono_le p k r (fun r hr => hm r (Nat.lt_succ_of_lt hr)) (Nat.le_of_lt_succ h))
        (hm k (Nat.lt_succ_self k))
    · exact Nat.le_refl _

theorem eq_flatMap_slices {β : Type} (l : List β) (p : Nat → Nat) (R : Nat) (h0 : p 0 = 0)
    (hm : ∀ r, r < R → p r ≤ p (r + 1)) (hR : p R = l.length) :
    l = (List.range R).flatMap fun r => rowSlice l (p r) (p (r + 1)) := by
  rw [← take_eq_flatMap_slices l p h0 R hm, hR, List.take_length]

theorem zip_flatMap {γ β δ : Type} (f : γ → List β) (g : γ → List δ) : ∀ (l : List γ),
    (∀ x ∈ l, (f x).length = (g x).length) →
    (l.flatMap f).zip (l.flatMap g) = l.flatMap fun x => (f x).zip (g x)
  | [], _ => by simp
  | a :: l, h => by
    simp only [List.flatMap_cons]
    rw [List.zip_append (h a List.mem_cons_self), zip_flatMap f g l (fun x hx => h x (List.mem_cons_of_mem _ hx))]

theorem zip_replicate_left {β : Type} (r : Nat) : ∀ (l : List β), (List.replicate l.length r).zip l = l.map fun x => (r, x)
  | [] => rfl
  | a :: l => by simp [List.replicate_succ, zip_replicate_left r l]

/-- the 2-d entries `GCXS.tocoo` hands to the COO constructor -/
def csrEntries (indptr indices : List Nat) (data : List Int) : List (Idx × Int) :=
  (((uncompress indptr).zip indices).zip data).map fun p => ([p.1.1, p.1.2], p.2)

def csrRow (indptr indices : List Nat) (data : List Int) (r : Nat) : List (Nat × Int) :=
  (rowSlice indices (indptr.getD r 0) (indptr.getD (r + 1) 0)).zip
    (rowSlice data (indptr.getD r 0) (indptr.getD (r + 1) 0))

def rowGet (row : List (Nat × Int)) (fill : Int) (c : Nat) : Int :=
  match row.find? (fun e => e.1 == c) with
  | some e => e.2
  | none => fill

def tagRows (F : Nat → List (Nat × Int)) (R : Nat) : List (Idx × Int) :=
  (List.range R).flatMap fun r => (F r).map fun e => ([r, e.1], e.2)

section
variable {R C : Nat} {indptr indices : List Nat} {n : Nat}

theorem CsrWF.ptr_len (h : CsrWF R C indptr indices n) : indptr.length = R + 1 := h.1

theorem CsrWF.ptr_zero (h : CsrWF R C indptr indices n) : indptr.getD 0 0 = 0 := h.2.1

theorem CsrWF.ptr_last (h : CsrWF R C indptr indices n) : indptr.getD R 0 = indices.length := h.2.2.1

theorem CsrWF.data_len (h : CsrWF R C indptr indices n) : n = indices.length := h.2.2.2.1

theorem CsrWF.ptr_mono (h : CsrWF R C indptr indices n) (r : Nat) (hr : r < R) :
    indptr.getD r 0 ≤ indptr.getD (r + 1) 0 := h.2.2.2.2.1 r hr

theorem CsrWF.row_sorted (h : CsrWF R C indptr indices n) (r : Nat) (hr : r < R) :
    (rowSlice indices (indptr.getD r 0) (indptr.getD (r + 1) 0)).Pairwise (· < ·) := h.2.2.2.2.2.1 r hr

theorem CsrWF.col_lt (h : CsrWF R C indptr indices n) (c : Nat) (hc : c ∈ indices) : c < C := h.2.2.2.2.2.2 c hc

end

theorem csr_slice_length {β : Type} {R C : Nat} {indptr indices : List Nat} {n : Nat} (h : CsrWF R C indptr indices n)
    (l : List β) (hl : l.length = indices.length) {r : Nat} (hr : r < R) :
    (rowSlice l (indptr.getD r 0) (indptr.getD (r + 1) 0)).length = indptr.getD (r + 1) 0 - indptr.getD r 0 := by
  have : indptr.getD (r + 1) 0 ≤ indices.length := by
    rw [← h.ptr_last]; exact mono_le (fun r => indptr.getD r 0) R (r + 1) h.ptr_mono (by omega)
  rw [rowSlice_length, hl, Nat.min_eq_left this]

theorem csr_eq_slices {β : Type} {R C : Nat} {indptr indices : List Nat} {n : Nat} (h : CsrWF R C indptr indices n)
    (l : List β) (hl : l.length = indices.length) :
    l = (List.range R).flatMap fun r => rowSlice l (indptr.getD r 0) (indptr.getD (r + 1) 0) :=
  eq_flatMap_slices l (fun r => indptr.getD r 0) R h.ptr_zero h.ptr_mono (h.ptr_last.trans hl.symm)

theorem uncompress_csr {R C : Nat} {indptr indices : List Nat} {n : Nat} (h : CsrWF R C indptr indices n) :
    uncompress indptr = (List.range R).flatMap (fun r =>
      List.replicate (rowSlice indices (indptr.getD r 0) (indptr.getD (r + 1) 0)).length r) ∧
    (uncompress indptr).length = indices.length := by
  have hU : uncompress indptr = (List.range R).flatMap fun r =>
      List.replicate (rowSlice indices (indptr.getD r 0) (indptr.getD (r + 1) 0)).length r := by
    unfold uncompress
    rw [h.ptr_len, Nat.add_sub_cancel]
    apply flatMap_congr'
    intro r hr
    rw [csr_slice_length h indices rfl (List.mem_range.mp hr)]
  refine ⟨hU, ?_⟩
  rw [hU]
  conv => rhs; rw [csr_eq_slices h indices rfl]
  rw [List.length_flatMap, List.length_flatMap]
  congr 1
  apply List.map_congr_left
  intro r _
  simp

theorem csrEntries_eq_tagRows {R C : Nat} {indptr indices : List Nat} {data : List Int}
    (h : CsrWF R C indptr indices data.length) :
    csrEntries indptr indices data = tagRows (csrRow indptr indices data) R := by
  have h1 := zip_flatMap (fun r => List.replicate (rowSlice indices (indptr.getD r 0) (indptr.getD (r + 1) 0)).length r)
    (fun r => rowSlice indices (indptr.getD r 0) (indptr.getD (r + 1) 0)) (List.range R) (by intro x _; simp)
  rw [← (uncompress_csr h).1, ← csr_eq_slices h indices rfl] at h1
  have h2 := zip_flatMap (fun r => (List.replicate (rowSlice indices (indptr.getD r 0) (indptr.getD (r + 1) 0)).length r).zip
      (rowSlice indices (indptr.getD r 0) (indptr.getD (r + 1) 0)))
    (fun r => rowSlice data (indptr.getD r 0) (indptr.getD (r + 1) 0)) (List.range R) (by
      intro r hr
      have hr := List.mem_range.mp hr
      rw [List.length_zip, List.length_replicate, Nat.min_self, csr_slice_length h indices rfl hr,
        csr_slice_length h data h.data_len hr])
  rw [← h1, ← csr_eq_slices h data h.data_len] at h2
  unfold csrEntries tagRows
  rw [h2, List.map_flatMap]
  apply flatMap_congr'
  intro r _
  unfold csrRow
  rw [zip_replicate_left, List.zip_map_left, List.map_map]
  rfl

theorem lookup_append_default (a b : List (Idx × Int)) (d : Int) (i : Idx) :
    lookup (a ++ b) d i = lookup a (lookup b d i) i := by
  induction a with
  | nil => simp [lookup]
  | cons e a ih => rw [List.cons_append, lookup_cons, lookup_cons, ih]

theorem lookup_map_inj (φ : Nat → Idx) (hφ : ∀ a b, φ a = φ b → a = b) : ∀ (l : List (Nat × Int)) (d : Int) (q : Nat),
    lookup (l.map fun p => (φ p.1, p.2)) d (φ q) = rowGet l d q
  | [], _, _ => rfl
  | e :: l, d, q => by
    rw [List.map_cons, lookup_cons]
    have ih := lookup_map_inj φ hφ l d q
    unfold rowGet at ih ⊢
    rw [List.find?_cons]
    by_cases h : e.1 = q
    · subst h; simp
    · have h1 : ¬ φ e.1 = φ q := fun hh => h (hφ _ _ hh)
      have h2 : (e.1 == q) = false := by simpa using h
      rw [if_neg h1, h2]
      exact ih

theorem keys_nodup_map_inj (φ : Nat → Idx) (hφ : ∀ a b, φ a = φ b → a = b) (l : List (Nat × Int))
    (hl : (l.map (·.1)).Pairwise (· < ·)) : (keysOf (l.map fun p => (φ p.1, p.2))).Nodup := by
  unfold keysOf List.Nodup
  rw [List.pairwise_map] at hl
  rw [List.map_map, List.pairwise_map]
  exact hl.imp fun {a b} hab heq => by have := hφ a.1 b.1 heq; omega

theorem tag_inj (r : Nat) (a b : Nat) (h : [r, a] = [r, b]) : a = b := by simpa using h

theorem lookup_tagged_other (row : List (Nat × Int)) (d : Int) (r r' c : Nat) (h : r' ≠ r) :
    lookup (row.map fun e => ([r', e.1], e.2)) d [r, c] = d := by
  apply lookup_of_not_mem
  simp only [keysOf, List.map_map, List.mem_map, Function.comp, not_exists, not_and]
  intro e _ he
  simp only [List.cons.injEq, and_true] at he
  exact h he.1

theorem tagRows_succ (F : Nat → List (Nat × Int)) (R : Nat) :
    tagRows F (R + 1) = tagRows F R ++ (F R).map fun e => ([R, e.1], e.2) := by
  rw [tagRows, List.range_succ, List.flatMap_append, List.flatMap_singleton]
  rfl

theorem lookup_tagRows (F : Nat → List (Nat × Int)) (d : Int) (r c R : Nat) :
    lookup (tagRows F R) d [r, c] = if r < R then rowGet (F r) d c else d := by
  induction R generalizing d with
  | zero => rfl
  | succ R ih =>
    rw [tagRows_succ, lookup_append_default, ih]
    by_cases hr : r = R
    · subst hr
      rw [lookup_map_inj (fun c => [r, c]) (tag_inj r), if_neg (Nat.lt_irrefl _), if_pos (Nat.lt_succ_self _)]
    · rw [lookup_tagged_other _ _ _ _ _ (Ne.symm hr)]
      by_cases h1 : r < R
      · rw [if_pos h1, if_pos (Nat.lt_succ_of_lt h1)]
      · rw [if_neg h1, if_neg (by omega)]

theorem mem_tagRows {F : Nat → List (Nat × Int)} {R : Nat} {e : Idx × Int} (h : e ∈ tagRows F R) :
    ∃ r, r < R ∧ ∃ p ∈ F r, e = ([r, p.1], p.2) := by
  obtain ⟨r, hr, he⟩ := List.mem_flatMap.mp h
  obtain ⟨p, hp, rfl⟩ := List.mem_map.mp he
  exact ⟨r, List.mem_range.mp hr, p, hp, rfl⟩

theorem tagRows_lin (F : Nat → List (Nat × Int)) (R0 C R : Nat)
    (h1 : ∀ r, r < R → ((F r).map (·.1)).Pairwise (· < ·)) (h2 : ∀ r, r < R → ∀ e ∈ F r, e.1 < C) :
    (lin [R0, C] (tagRows F R)).Pairwise (· < ·) ∧ ∀ x ∈ lin [R0, C] (tagRows F R), x < R * C := by
  have hl : lin [R0, C] (tagRows F R) = (List.range R).flatMap fun r => (F r).map fun e => r * C + e.1 := by
    unfold lin tagRows
    rw [List.map_flatMap]
    refine flatMap_congr' fun r _ => ?_
    rw [List.map_map]
    exact List.map_congr_left fun e _ => by simp [ravel, prod]
  have hrow : ∀ r, r < R → ∀ x ∈ (F r).map (fun e => r * C + e.1), r * C ≤ x ∧ x < (r + 1) * C := by
    intro r hr x hx
    obtain ⟨e, he, rfl⟩ := List.mem_map.mp hx
    exact ⟨Nat.le_add_right _ _, mul_add_lt (Nat.lt_succ_self r) (h2 r hr e he)⟩
  rw [hl]
  constructor
  · rw [List.pairwise_flatMap]
    refine ⟨fun r hr => ?_, List.pairwise_lt_range.imp_of_mem ?_⟩
    · have := h1 r (List.mem_range.mp hr)
      rw [List.pairwise_map] at this ⊢
      exact this.imp fun hab => Nat.add_lt_add_left hab _
    · intro a b ha hb hab x hx y hy
      have hx := (hrow a (List.mem_range.mp ha) x hx).2
      have hy := (hrow b (List.mem_range.mp hb) y hy).1
      exact Nat.lt_of_lt_of_le hx (Nat.le_trans (Nat.mul_le_mul_right C hab) hy)
  · intro x hx
    obtain ⟨r, hr, hx⟩ := List.mem_flatMap.mp hx
    have hr := List.mem_range.mp hr
    exact Nat.lt_of_lt_of_le (hrow r hr x hx).2 (Nat.mul_le_mul_right C hr)

end GIx

open GIx
namespace GCXS

/-- admissible compressed axes for a rank (`check_compressed_axes`) -/
def CaxesOk (c : List Nat) (n : Nat) : Prop := c ≠ [] ∧ c.length < n ∧ c.Pairwise (· < ·) ∧ ∀ a ∈ c, a < n

theorem CaxesOk.perm {c : List Nat} {n : Nat} (h : CaxesOk c n) : (axisOrder n c).Perm (List.range n) :=
  axisOrder_perm n c (h.2.2.1.imp Nat.ne_of_lt) h.2.2.2

theorem CaxesOk.single {axis n : Nat} (hn : 1 < n) (ha : axis < n) : CaxesOk [axis] n :=
  ⟨List.cons_ne_nil _ _, hn, List.pairwise_singleton _ _, fun _ h => List.mem_singleton.mp h ▸ ha⟩

theorem tocoo_get_entries (g : GCXS Int) (c : List Nat) (hc : g.caxes = some c)
    (hperm : (axisOrder g.shape.length c).Perm (List.range g.shape.length))
    (hin : ∀ e ∈ csrEntries g.indptr g.indices g.data, InB e.1 [csrR g.shape c, csrC g.shape c])
    (hnd : (keysOf (csrEntries g.indptr g.indices g.data)).Nodup) :
    g.tocoo.shape = g.shape ∧ g.tocoo.fill = g.fill ∧ g.tocoo.WF ∧ (keysOf g.tocoo.entries).Nodup ∧
    ∀ i, InB i g.shape → g.tocoo.get i =
      lookup (csrEntries g.indptr g.indices g.data) g.fill
        [linOf g.shape c i / csrC g.shape c, linOf g.shape c i % csrC g.shape c] := by
  unfold tocoo
  rw [hc]
  exact unflatten g.shape _ hperm _ _ (csrR_mul_csrC g.shape c) _ g.fill hin hnd

end GCXS

namespace GIx

theorem mem_rowSlice {β : Type} {l : List β} {a b : Nat} {x : β} (h : x ∈ rowSlice l a b) : x ∈ l :=
  List.mem_of_mem_take (List.mem_of_mem_drop h)

theorem csrRow_fst {R C : Nat} {indptr indices : List Nat} {data : List Int}
    (h : CsrWF R C indptr indices data.length) (r : Nat) :
    (csrRow indptr indices data r).map (·.1) = rowSlice indices (indptr.getD r 0) (indptr.getD (r + 1) 0) := by
  unfold csrRow
  apply List.map_fst_zip
  rw [rowSlice_length, rowSlice_length, h.data_len]
  exact Nat.le_refl _

theorem csrRow_snd {R C : Nat} {indptr indices : List Nat} {data : List Int}
    (h : CsrWF R C indptr indices data.length) (r : Nat) :
    (csrRow indptr indices data r).map (·.2) = rowSlice data (indptr.getD r 0) (indptr.getD (r + 1) 0) := by
  unfold csrRow
  apply List.map_snd_zip
  rw [rowSlice_length, rowSlice_length, h.data_len]
  exact Nat.le_refl _

theorem csrRow_sorted {R C : Nat} {indptr indices : List Nat} {data : List Int}
    (h : CsrWF R C indptr indices data.length) {r : Nat} (hr : r < R) :
    ((csrRow indptr indices data r).map (·.1)).Pairwise (· < ·) := by
  rw [csrRow_fst h]
  exact h.row_sorted r hr

theorem csrRow_lt {R C : Nat} {indptr indices : List Nat} {data : List Int}
    (h : CsrWF R C indptr indices data.length) {r : Nat} {e : Nat × Int} (he : e ∈ csrRow indptr indices data r) :
    e.1 < C := by
  have : e.1 ∈ (csrRow indptr indices data r).map (·.1) := List.mem_map.mpr ⟨e, he, rfl⟩
  rw [csrRow_fst h] at this
  exact h.col_lt _ (mem_rowSlice this)

theorem csr_sortedLin {R C : Nat} {indptr indices : List Nat} {data : List Int}
    (h : CsrWF R C indptr indices data.length) : SortedLin [R, C] (csrEntries indptr indices data) := by
  rw [csrEntries_eq_tagRows h]
  exact (tagRows_lin _ R C R (fun _ hr => csrRow_sorted h hr) (fun _ _ _ he => csrRow_lt h he)).1

theorem csr_facts {R C : Nat} {indptr indices : List Nat} {data : List Int}
    (h : CsrWF R C indptr indices data.length) :
    (∀ e ∈ csrEntries indptr indices data, InB e.1 [R, C]) ∧
    (keysOf (csrEntries indptr indices data)).Nodup ∧
    ∀ (d : Int) (r c : Nat), lookup (csrEntries indptr indices data) d [r, c] =
      if r < R then rowGet (csrRow indptr indices data r) d c else d := by
  refine ⟨?_, sortedLin_keys_nodup _ _ (csr_sortedLin h), ?_⟩
  · rw [csrEntries_eq_tagRows h]
    intro e he
    obtain ⟨r, hr, p, hp, rfl⟩ := mem_tagRows he
    exact ⟨hr, csrRow_lt h hp, trivial⟩
  · rw [csrEntries_eq_tagRows h]
    exact fun d r c => lookup_tagRows _ d r c R

end GIx

namespace GCXS

theorem WF_iff {g : GCXS Int} {c : List Nat} (hc : g.caxes = some c) :
    g.WF ↔ CaxesOk c g.shape.length ∧ CsrWF (csrR g.shape c) (csrC g.shape c) g.indptr g.indices g.data.length := by
  unfold WF CaxesOk
  rw [hc]
  simp only [and_assoc]

theorem WF_some {g : GCXS Int} (hwf : g.WF) : ∃ c, g.caxes = some c := by
  unfold WF at hwf
  cases hc : g.caxes with
  | none => rw [hc] at hwf; exact hwf.elim
  | some c => exact ⟨c, rfl⟩

theorem WF_rank {g : GCXS Int} (hwf : g.WF) : 2 ≤ g.shape.length := by
  obtain ⟨c, hc⟩ := WF_some hwf
  obtain ⟨⟨h1, h2, _⟩, _⟩ := (WF_iff hc).mp hwf
  exact Nat.lt_of_le_of_lt (List.length_pos_iff.mpr h1) h2

theorem tocoo_get (g : GCXS Int) (c : List Nat) (hc : g.caxes = some c) (hwf : g.WF) :
    g.tocoo.shape = g.shape ∧ g.tocoo.fill = g.fill ∧ g.tocoo.WF ∧ (keysOf g.tocoo.entries).Nodup ∧
    ∀ i, InB i g.shape → g.tocoo.get i =
      rowGet (csrRow g.indptr g.indices g.data (linOf g.shape c i / csrC g.shape c)) g.fill
        (linOf g.shape c i % csrC g.shape c) := by
  obtain ⟨hok, hcsr⟩ := (WF_iff hc).mp hwf
  obtain ⟨hin, hnd, hlk⟩ := csr_facts hcsr
  obtain ⟨h1, h2, h3, h4, h5⟩ := tocoo_get_entries g c hc hok.perm hin hnd
  refine ⟨h1, h2, h3, h4, fun i hi => ?_⟩
  rw [h5 i hi, hlk, if_pos (divmod_lt (linOf_lt g.shape c hok.perm hi)).1]

theorem tocoo_get_at (g : GCXS Int) (c : List Nat) (hc : g.caxes = some c) (hwf : g.WF) {i : Idx} (hi : InB i g.shape)
    {C r x : Nat} (hC : csrC g.shape c = C) (hlin : linOf g.shape c i = r * C + x) (hx : x < C) :
    g.tocoo.get i = rowGet (csrRow g.indptr g.indices g.data r) g.fill x := by
  obtain ⟨e1, e2⟩ := divmod_of_lt r x C hx
  rw [(tocoo_get g c hc hwf).2.2.2.2 i hi, hlin, hC, e1, e2]

end GCXS

/-! assembling a CSR triple from a list of rows, as every kernel does: `indptr[i+1] = indptr[i] + len(row i)` -/
namespace GIx

theorem cumLens_length : ∀ (lens : List Nat) (acc : Nat), (cumLens acc lens).length = lens.length
  | [], _ => rfl
  | n :: ns, acc => by simp [cumLens, cumLens_length ns]

theorem ptr_getD : ∀ (lens : List Nat) (acc r : Nat), r ≤ lens.length →
    (acc :: cumLens acc lens).getD r 0 = acc + (lens.take r).sum
  | _, _, 0, _ => by simp
  | n :: ns, acc, r + 1, h => by
    rw [List.getD_cons_succ]
    simp only [cumLens]
    rw [ptr_getD ns (acc + n) r (by simpa using h)]
    simp [Nat.add_assoc]

theorem eq_cumLens : ∀ (lens : List Nat) (acc : Nat) (p : List Nat), p.length = lens.length + 1 → p.getD 0 0 = acc →
    (∀ r (h : r < lens.length), p.getD (r + 1) 0 = p.getD r 0 + lens[r]) → p = acc :: cumLens acc lens
  | [], _, [a], _, h0, _ => congrArg (· :: []) h0
  | n :: ns, acc, a :: p, hl, h0, hs => by
    have ha : a = acc := h0
    have ih := eq_cumLens ns (acc + n) p (Nat.succ.inj hl) (by rw [← ha]; exact hs 0 (Nat.zero_lt_succ _))
      fun r h => hs (r + 1) (Nat.succ_lt_succ h)
    rw [ha, cumLens, ← ih]

theorem sum_take_succ : ∀ (lens : List Nat) (r : Nat) (h : r < lens.length),
    (lens.take (r + 1)).sum = (lens.take r).sum + lens[r]
  | n :: ns, 0, _ => (Nat.zero_add n).symm
  | n :: ns, r + 1, h => by
    simp only [List.take_succ_cons, List.sum_cons, List.getElem_cons_succ]
    rw [sum_take_succ ns r (by simpa using h)]
    omega

theorem rowSlice_flatten {β : Type} : ∀ (F : List (List β)) (r : Nat) (h : r < F.length),
    rowSlice F.flatten ((F.map List.length).take r).sum ((F.map List.length).take (r + 1)).sum = F[r]
  | a :: F, 0, _ => by
    simp only [List.map_cons, List.take_zero, List.sum_nil, List.take_succ_cons, List.sum_cons, Nat.add_zero,
      List.flatten_cons, List.getElem_cons_zero, rowSlice, List.drop_zero]
    exact List.take_left' rfl
  | a :: F, r + 1, h => by
    simp only [List.map_cons, List.take_succ_cons, List.sum_cons, List.flatten_cons, List.getElem_cons_succ, rowSlice]
    rw [List.take_length_add_append, List.drop_length_add_append]
    exact rowSlice_flatten F r (by simpa using h)

theorem rowSlice_map {β γ : Type} (f : β → γ) (l : List β) (a b : Nat) :
    rowSlice (l.map f) a b = (rowSlice l a b).map f := by
  rw [rowSlice, rowSlice, List.map_drop, List.map_take]

theorem fromRows_csr (rws : List (List (Nat × Int))) (C : Nat)
    (h1 : ∀ row ∈ rws, (row.map (·.1)).Pairwise (· < ·)) (h2 : ∀ row ∈ rws, ∀ e ∈ row, e.1 < C) :
    CsrWF rws.length C (0 :: cumLens 0 (rws.map List.length)) (rws.flatten.map (·.1)) (rws.flatten.map (·.2)).length ∧
    ∀ r (hr : r < rws.length),
      csrRow (0 :: cumLens 0 (rws.map List.length)) (rws.flatten.map (·.1)) (rws.flatten.map (·.2)) r = rws[r] := by
  have hp : ∀ r, r ≤ rws.length →
      (0 :: cumLens 0 (rws.map List.length)).getD r 0 = ((rws.map List.length).take r).sum := by
    intro r hr
    rw [ptr_getD _ 0 r (by rw [List.length_map]; exact hr), Nat.zero_add]
  have hrow : ∀ r (hr : r < rws.length), rowSlice rws.flatten ((0 :: cumLens 0 (rws.map List.length)).getD r 0)
      ((0 :: cumLens 0 (rws.map List.length)).getD (r + 1) 0) = rws[r] := by
    intro r hr
    rw [hp r (Nat.le_of_lt hr), hp (r + 1) hr]
    exact rowSlice_flatten rws r hr
  refine ⟨⟨by simp [cumLens_length], rfl, ?_, by simp only [List.length_map], ?_, ?_, ?_⟩, ?_⟩
  · rw [hp _ (Nat.le_refl _), List.take_of_length_le (by simp), List.length_map, List.length_flatten]
  · intro r hr
    rw [hp r (Nat.le_of_lt hr), hp (r + 1) hr, sum_take_succ _ r (by rw [List.length_map]; exact hr)]
    exact Nat.le_add_right _ _
  · intro r hr
    rw [rowSlice_map, hrow r hr]
    exact h1 _ (List.getElem_mem hr)
  · intro c hc
    obtain ⟨e, he, rfl⟩ := List.mem_map.mp hc
    obtain ⟨row, hrow, herow⟩ := List.mem_flatten.mp he
    exact h2 row hrow e herow
  · intro r hr
    rw [csrRow, rowSlice_map, rowSlice_map, hrow r hr]
    exact zip_map_fst_snd _

end GIx
end SparseV
