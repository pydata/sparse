/-
  SparseV.Lemmas.Index — row-major index arithmetic: `ravel`/`unravel` are mutually inverse
  bijections between in-bounds indices and `[0, prod shape)`, and `ravel` is strictly monotone for
  the lexicographic order (so "sorted by linear location" = "row-major order"); `allIdx` lists the
  indices of a shape by linear location.
-/
import SparseV.Model.Basic
import SparseV.Lemmas.List
namespace SparseV

theorem InB_length : ∀ {i : Idx} {s : List Nat}, InB i s → i.length = s.length
  | [], [], _ => rfl
  | _ :: is, _ :: ds, h => congrArg (· + 1) (InB_length (i := is) (s := ds) h.2)

@[simp] theorem InB_nil : InB [] [] := trivial
@[simp] theorem InB_cons (i d : Nat) (is ds : List Nat) : InB (i :: is) (d :: ds) ↔ i < d ∧ InB is ds := Iff.rfl
@[simp] theorem InB_nil_cons (d : Nat) (ds : List Nat) : ¬ InB [] (d :: ds) := fun h => h
@[simp] theorem InB_cons_nil (i : Nat) (is : List Nat) : ¬ InB (i :: is) [] := fun h => h

theorem InB_cons_right {c : Idx} {d : Nat} {ds : List Nat} (h : InB c (d :: ds)) :
    ∃ ci cs, c = ci :: cs ∧ ci < d ∧ InB cs ds :=
  match c, h with
  | ci :: cs, h => ⟨ci, cs, rfl, h.1, h.2⟩

theorem InB.induction {motive : ∀ (i : Idx) (s : List Nat), InB i s → Prop} (nil : motive [] [] trivial)
    (cons : ∀ i is d ds (hi : i < d) (h : InB is ds), motive is ds h → motive (i :: is) (d :: ds) ⟨hi, h⟩) :
    ∀ i s (h : InB i s), motive i s h
  | [], [], _ => nil
  | i :: is, d :: ds, h => cons i is d ds h.1 h.2 (induction nil cons is ds h.2)

theorem InB_set {j : Idx} {s : List Nat} (h : InB j s) (a : Nat) {p m : Nat} (hp : p < m) :
    InB (j.set a p) (s.set a m) := by
  induction j, s, h using InB.induction generalizing a with
  | nil => trivial
  | cons i is d ds hi his ih =>
    cases a with
    | zero => exact ⟨hp, his⟩
    | succ a => exact ⟨hi, ih a⟩

theorem prod_pos_of_InB {i : Idx} {s : List Nat} (h : InB i s) : 0 < prod s := by
  induction i, s, h using InB.induction with
  | nil => exact Nat.one_pos
  | cons i is d ds hi _ ih => exact Nat.mul_pos (Nat.zero_lt_of_lt hi) ih

theorem ravel_lt {i : Idx} {s : List Nat} (h : InB i s) : ravel i s < prod s := by
  induction i, s, h using InB.induction with
  | nil => exact Nat.one_pos
  | cons i is d ds hi _ ih =>
    calc i * prod ds + ravel is ds < i * prod ds + prod ds := Nat.add_lt_add_left ih _
      _ = (i + 1) * prod ds := (Nat.succ_mul _ _).symm
      _ ≤ d * prod ds := Nat.mul_le_mul_right _ hi

theorem divmod_mul_add {i m P : Nat} (hm : m < P) : (i * P + m) / P = i ∧ (i * P + m) % P = m := by
  have hp : 0 < P := Nat.zero_lt_of_lt hm
  constructor
  · rw [Nat.add_comm, Nat.add_mul_div_right _ _ hp, Nat.div_eq_of_lt hm, Nat.zero_add]
  · rw [Nat.add_comm, Nat.add_mul_mod_self_right, Nat.mod_eq_of_lt hm]

theorem unravel_ravel {i : Idx} {s : List Nat} (h : InB i s) : unravel (ravel i s) s = i := by
  induction i, s, h using InB.induction with
  | nil => rfl
  | cons i is d ds hi his ih =>
    obtain ⟨h1, h2⟩ := divmod_mul_add (i := i) (ravel_lt his)
    simp only [ravel, unravel]
    rw [h1, h2, ih]

theorem unravel_InB : ∀ (s : List Nat) (n : Nat), n < prod s → InB (unravel n s) s
  | [], _, _ => by simp [unravel]
  | d :: ds, n, h => by
    simp only [prod] at h
    have hp : 0 < prod ds := Nat.pos_of_mul_pos_left (Nat.zero_lt_of_lt h)
    simp only [unravel, InB_cons]
    refine ⟨?_, unravel_InB ds _ (Nat.mod_lt _ hp)⟩
    rw [Nat.div_lt_iff_lt_mul hp]
    exact h

theorem ravel_unravel : ∀ (s : List Nat) (n : Nat), n < prod s → ravel (unravel n s) s = n
  | [], n, h => by simp [prod] at h; simp [unravel, ravel, h]
  | d :: ds, n, h => by
    simp only [prod] at h
    have hp : 0 < prod ds := Nat.pos_of_mul_pos_left (Nat.zero_lt_of_lt h)
    simp only [unravel, ravel]
    rw [ravel_unravel ds _ (Nat.mod_lt _ hp)]
    exact Nat.div_add_mod' n (prod ds)

theorem ravel_inj {i j : Idx} {s : List Nat} (hi : InB i s) (hj : InB j s)
    (h : ravel i s = ravel j s) : i = j := by
  rw [← unravel_ravel hi, ← unravel_ravel hj, h]

theorem ravel_lt_of_lex {i j : Idx} {s : List Nat} (hi : InB i s) (hj : InB j s) (h : i < j) :
    ravel i s < ravel j s := by
  induction i, s, hi using InB.induction generalizing j with
  | nil =>
    cases j with
    | nil => exact absurd h (List.lt_irrefl _)
    | cons => exact hj.elim
  | cons a as d ds _ has ih =>
    obtain ⟨b, bs, rfl, _, hbs⟩ := InB_cons_right hj
    have hlt_a : ravel as ds < prod ds := ravel_lt has
    simp only [ravel]
    rcases List.cons_lt_cons_iff.mp h with hab | ⟨hab, hrest⟩
    · calc a * prod ds + ravel as ds < a * prod ds + prod ds := by omega
        _ = (a + 1) * prod ds := by rw [Nat.add_mul, Nat.one_mul]
        _ ≤ b * prod ds := Nat.mul_le_mul_right _ hab
        _ ≤ b * prod ds + ravel bs ds := Nat.le_add_right _ _
    · subst hab
      have := ih hbs hrest
      omega

theorem prod_append : ∀ (a b : List Nat), prod (a ++ b) = prod a * prod b
  | [], b => by simp [prod]
  | d :: a, b => by simp only [List.cons_append, prod, prod_append a b, Nat.mul_assoc]

theorem ravel_append (j ks : List Nat) (h : j.length = ks.length) (u as : List Nat) :
    ravel (j ++ u) (ks ++ as) = ravel j ks * prod as + ravel u as := by
  induction j generalizing ks with
  | nil =>
    obtain rfl := List.length_eq_zero_iff.mp h.symm
    show ravel u as = 0 * prod as + ravel u as
    rw [Nat.zero_mul, Nat.zero_add]
  | cons i is ih =>
    cases ks with
    | nil => cases h
    | cons d ds =>
      show i * prod (ds ++ as) + ravel (is ++ u) (ds ++ as) = (i * prod ds + ravel is ds) * prod as + ravel u as
      rw [ih ds (Nat.succ.inj h), prod_append, Nat.add_mul, Nat.mul_assoc, Nat.add_assoc]

theorem lex_of_ravel_lt {i j : Idx} {s : List Nat} (hi : InB i s) (hj : InB j s)
    (h : ravel i s < ravel j s) : i < j := by
  apply Decidable.byContradiction
  intro hn
  rcases List.le_iff_lt_or_eq.mp (List.not_lt.mp hn) with hlt | rfl
  · exact Nat.lt_asymm h (ravel_lt_of_lex hj hi hlt)
  · exact Nat.lt_irrefl _ h

theorem range_mul (d P : Nat) :
    List.range (d * P) = (List.range d).flatMap fun i => (List.range P).map fun m => i * P + m := by
  induction d with
  | zero => simp
  | succ d ih =>
    rw [Nat.succ_mul, List.range_add, ih, List.range_succ, List.flatMap_append]
    simp

theorem allIdx_eq : ∀ (s : List Nat), allIdx s = (List.range (prod s)).map fun n => unravel n s
  | [] => by simp [allIdx, prod, unravel]
  | d :: ds => by
    simp only [allIdx, prod, range_mul, List.map_flatMap, List.map_map, allIdx_eq ds]
    congr 1
    funext i
    apply List.map_congr_left
    intro m hm
    obtain ⟨h1, h2⟩ := divmod_mul_add (i := i) (List.mem_range.mp hm)
    simp only [Function.comp, unravel, h1, h2]

theorem allIdx_length (s : List Nat) : (allIdx s).length = prod s := by simp [allIdx_eq]

theorem mem_allIdx {s : List Nat} {i : Idx} : i ∈ allIdx s ↔ InB i s := by
  rw [allIdx_eq]
  constructor
  · intro h
    obtain ⟨k, hk, rfl⟩ := List.mem_map.mp h
    exact unravel_InB s k (List.mem_range.mp hk)
  · intro h
    exact List.mem_map.mpr ⟨ravel i s, List.mem_range.mpr (ravel_lt h), unravel_ravel h⟩

theorem allIdx_getElem (s : List Nat) (k : Nat) (hk : k < (allIdx s).length) :
    (allIdx s)[k] = unravel k s := by
  simp [allIdx_eq]

theorem ravel_allIdx_getElem (s : List Nat) (k : Nat) (hk : k < (allIdx s).length) :
    ravel ((allIdx s)[k]) s = k := by
  rw [allIdx_getElem]
  exact ravel_unravel s k (by rwa [allIdx_length] at hk)

theorem allIdx_ravel (s : List Nat) : (allIdx s).map (fun i => ravel i s) = List.range (prod s) := by
  rw [allIdx_eq, List.map_map]
  conv => rhs; rw [← List.map_id (List.range (prod s))]
  apply List.map_congr_left
  intro k hk
  simp [ravel_unravel s k (List.mem_range.mp hk)]

theorem allIdx_sorted : ∀ (s : List Nat), (allIdx s).Pairwise (· < ·)
  | [] => List.pairwise_singleton _ _
  | d :: ds => by
    rw [allIdx, List.pairwise_flatMap]
    constructor
    · intro a _
      rw [List.pairwise_map]
      exact (allIdx_sorted ds).imp fun {r r'} h => List.cons_lt_cons_iff.mpr (Or.inr ⟨rfl, h⟩)
    · refine List.pairwise_lt_range.imp fun {a1 a2} h x hx y hy => ?_
      obtain ⟨r, _, rfl⟩ := List.mem_map.mp hx
      obtain ⟨r', _, rfl⟩ := List.mem_map.mp hy
      exact List.cons_lt_cons_iff.mpr (Or.inl h)

namespace COO

theorem InB_append (a c b d : List Nat) (h : a.length = c.length) : InB (a ++ b) (c ++ d) ↔ InB a c ∧ InB b d := by
  induction a generalizing c with
  | nil =>
    obtain rfl := List.length_eq_zero_iff.mp h.symm
    exact ⟨fun hb => ⟨trivial, hb⟩, fun hb => hb.2⟩
  | cons x a ih =>
    cases c with
    | nil => cases h
    | cons y c => simp only [List.cons_append, InB_cons, ih c (Nat.succ.inj h), and_assoc]

theorem ravel2 (r c R C : Nat) : ravel [r, c] [R, C] = r * C + c := by simp [ravel, prod]

end COO

end SparseV
