/-
  SparseV.Lemmas.Interleave — behind the C13 theorems (Props/C13.lean): the invariants of the memo system
  (MInv) and of the cache-deque system (CInv: values; PInv: versions, for schedules outside the excluded
  region), preserved by every step of every thread.  The deque invariants are proved on `cnext` / `cshared`
  — the acting thread's own action — and carried to `cstep` by `cstep_some`.
-/
import SparseV.Model.Interleave
import SparseV.Lemmas.Cache
namespace SparseV.C13
open SparseV SparseV.Interleave SparseV.Cache

theorem forall_set {T : Type} {P : T → Prop} {l : List T} {i : Nat} {b : T}
    (hl : ∀ a ∈ l, P a) (hb : P b) : ∀ a ∈ l.set i b, P a := by
  intro a ha
  rcases List.mem_or_eq_of_mem_set ha with h | h
  · exact hl a h
  · exact h ▸ hb

theorem set_self {α : Type} (l : List α) (i : Nat) (a : α) (h : l[i]? = some a) : l.set i a = l := by
  obtain ⟨hi, rfl⟩ := List.getElem?_eq_some_iff.mp h
  exact List.set_getElem_self hi

theorem run_inv {σ : Type} (step : Nat → σ → σ) (I : σ → Prop) (hstep : ∀ t s, I s → I (step t s))
    (sched : List Nat) : ∀ s, I s → I (runSched step sched s) := by
  induction sched with
  | nil => intro s h; exact h
  | cons t ts ih => intro s h; exact ih _ (hstep t s h)

theorem runSched_append {σ : Type} (step : Nat → σ → σ) (a b : List Nat) (s : σ) :
    runSched step (a ++ b) s = runSched step b (runSched step a s) :=
  List.foldl_append

section Threads

variable {Pc K V : Type}

def NoErr (th : Thread Pc K V) : Prop := ∀ r ∈ th.rets, ∃ v, r.2 = .ok v

/-- the error list of a system (`errorsOf`, `derrorsOf`, `werrorsOf`: `pick` keeps the exceptions)
whose threads are all `NoErr` -/
theorem errors_nil {E : Type} {pick : K × Except Err V → Option E} {ths : List (Thread Pc K V)}
    (hpick : ∀ k v, pick (k, .ok v) = none) (h : ∀ th ∈ ths, NoErr th) :
    ths.flatMap (fun th => th.rets.filterMap pick) = [] := by
  simp only [List.flatMap_eq_nil_iff, List.filterMap_eq_nil_iff]
  intro th hth r hr
  obtain ⟨v, hv⟩ := h th hth r hr
  obtain ⟨k, x⟩ := r
  cases hv
  exact hpick k v

end Threads

section Memo

variable {K V : Type} [DecidableEq K]

def MemoOK (compute : K → V) (m : List (K × V)) : Prop := ∀ e ∈ m, e.2 = compute e.1

/-- a thread about to evaluate `cache[key]` has seen the key present (and entries are never
removed); a thread about to store holds the right value -/
def MPcOK (compute : K → V) (m : List (K × V)) : MPc K V → Prop
  | .get k => (dictGet m k).isSome = true
  | .store k v => v = compute k
  | _ => True

def MThreadOK (compute : K → V) (m : List (K × V)) (th : MThread K V) : Prop :=
  (∀ r ∈ th.rets, r.2 = .ok (compute r.1)) ∧ MPcOK compute m th.pc

def MInv (compute : K → V) (s : MState K V) : Prop :=
  MemoOK compute s.memo ∧ ∀ th ∈ s.threads, MThreadOK compute s.memo th

theorem dictGet_cons_isSome {m : List (K × V)} {k k' : K} {v : V}
    (h : (dictGet m k').isSome = true) : (dictGet ((k, v) :: m) k').isSome = true := by
  unfold dictGet at *
  rw [List.find?_cons]
  split
  · rfl
  · exact h

theorem mpcOK_cons {compute : K → V} {m : List (K × V)} {pc : MPc K V} (k : K) (v : V)
    (h : MPcOK compute m pc) : MPcOK compute ((k, v) :: m) pc := by
  cases pc with
  | get k' => exact dictGet_cons_isSome h
  | _ => exact h

theorem mstep_inv (compute : K → V) (t : Nat) (s : MState K V) (h : MInv compute s) :
    MInv compute (mstep compute t s) := by
  obtain ⟨hm, hth⟩ := h
  unfold mstep
  cases ht : s.threads[t]? with
  | none => exact ⟨hm, hth⟩
  | some th =>
    obtain ⟨hrets, hpc⟩ := hth th (List.mem_of_getElem? ht)
    obtain ⟨pc, todo, rets⟩ := th
    cases pc with
    | idle =>
      cases todo with
      | nil => exact ⟨hm, hth⟩
      | cons k ks => exact ⟨hm, forall_set hth ⟨hrets, trivial⟩⟩
    | check k =>
      simp only
      split
      next hc => exact ⟨hm, forall_set hth ⟨hrets, hc⟩⟩
      · exact ⟨hm, forall_set hth ⟨hrets, trivial⟩⟩
    | get k =>
      obtain ⟨v, hd⟩ := Option.isSome_iff_exists.mp hpc
      have hv : v = compute k := hm _ (mem_of_find_key hd)
      simp only [hd]
      exact ⟨hm, forall_set hth ⟨List.forall_mem_cons.mpr ⟨by rw [hv], hrets⟩, trivial⟩⟩
    | compute k => exact ⟨hm, forall_set hth ⟨hrets, rfl⟩⟩
    | store k v =>
      have hv : v = compute k := hpc
      exact ⟨List.forall_mem_cons.mpr ⟨hv, hm⟩,
        forall_set (fun a ha => ⟨(hth a ha).1, mpcOK_cons k v (hth a ha).2⟩) ⟨List.forall_mem_cons.mpr ⟨by rw [hv], hrets⟩, trivial⟩⟩

theorem minv_run (compute : K → V) (m : List (K × V)) (hm : MemoOK compute m) (progs : List (List K))
    (sched : List Nat) : MInv compute (runSched (mstep compute) sched (minit m progs)) :=
  run_inv (mstep compute) (MInv compute) (mstep_inv compute) sched _
    ⟨hm, List.forall_mem_map.mpr fun _ _ => ⟨List.forall_mem_nil _, trivial⟩⟩

end Memo

variable {V : Type}

def cnext (mode : Mode) (compute : Key → V) (dq : Cache V) (ver : Nat) (th : CThread V) : CThread V :=
  match th.pc with
  | .idle =>
    match th.todo with
    | [] => th
    | k :: ks => { th with pc := .start k, todo := ks }
  | .start k =>
    match mode with
    | .live => { th with pc := .iter k ver 0 [] }
    | .snapshot => { th with pc := .iter k ver 0 dq }
  | .iter k seen idx snap =>
    match mode with
    | .live =>
      if ver ≠ seen then { th with pc := .idle, rets := (k, .error .runtime) :: th.rets }
      else
        match dq[idx]? with
        | none => { th with pc := .compute k }
        | some it => { th with pc := .compare k seen (idx + 1) snap it }
    | .snapshot =>
      match snap[idx]? with
      | none => { th with pc := .compute k }
      | some it => { th with pc := .compare k seen (idx + 1) snap it }
  | .compare k seen idx snap it =>
    if it.1 = k then { th with pc := .idle, rets := (k, .ok it.2) :: th.rets }
    else { th with pc := .iter k seen idx snap }
  | .compute k => { th with pc := .append k (compute k) }
  | .append k v => { th with pc := .idle, rets := (k, .ok v) :: th.rets }

def cshared (dq : Cache V) (ver : Nat) (th : CThread V) : Cache V × Nat :=
  match th.pc with
  | .append k v => (Cache.append dq k v, ver + 1)
  | _ => (dq, ver)

theorem cstep_none {s : CState V} {t : Nat} (mode : Mode) (compute : Key → V) (ht : s.threads[t]? = none) :
    cstep mode compute t s = s := by
  unfold cstep
  rw [ht]

theorem cstep_some {s : CState V} {t : Nat} {th : CThread V} (mode : Mode) (compute : Key → V)
    (ht : s.threads[t]? = some th) :
    cstep mode compute t s =
      { dq := (cshared s.dq s.ver th).1, ver := (cshared s.dq s.ver th).2,
        threads := s.threads.set t (cnext mode compute s.dq s.ver th) } := by
  unfold cstep
  rw [ht]
  obtain ⟨pc, todo, rets⟩ := th
  cases pc with
  | idle =>
    cases todo with
    | nil => simp only [cshared, cnext, set_self _ _ _ ht]
    | cons k ks => rfl
  | start k => cases mode <;> rfl
  | iter k seen idx snap =>
    cases mode with
    | live =>
      simp only [cnext]
      split
      · rfl
      · cases s.dq[idx]? <;> rfl
    | snapshot =>
      simp only [cnext]
      cases snap[idx]? <;> rfl
  | compare k seen idx snap it =>
    simp only [cnext]
    split <;> rfl
  | compute k => rfl
  | append k v => rfl

theorem cstep_other_slot (mode : Mode) (compute : Key → V) (s : CState V) (t u : Nat) (htu : t ≠ u) :
    (cstep mode compute u s).threads[t]? = s.threads[t]? := by
  cases hu : s.threads[u]? with
  | none => rw [cstep_none mode compute hu]
  | some x => rw [cstep_some mode compute hu]; exact List.getElem?_set_ne (Ne.symm htu)

def isLocalPc (th : CThread V) : Bool :=
  match th.pc with
  | .idle => true
  | .compare .. => true
  | .compute _ => true
  | _ => false

theorem cnext_local (mode : Mode) (compute : Key → V) {th : CThread V} (hl : isLocalPc th = true) :
    ∃ th', ∀ dq ver, cshared dq ver th = (dq, ver) ∧ cnext mode compute dq ver th = th' := by
  obtain ⟨pc, todo, rets⟩ := th
  cases pc with
  | idle => exact ⟨_, fun _ _ => ⟨rfl, rfl⟩⟩
  | compare k seen idx snap it => exact ⟨_, fun _ _ => ⟨rfl, rfl⟩⟩
  | compute k => exact ⟨_, fun _ _ => ⟨rfl, rfl⟩⟩
  | start k => cases hl
  | iter k seen idx snap => cases hl
  | append k v => cases hl

def DqOK (compute : Key → V) (c : Cache V) : Prop := ∀ e ∈ c, e.2 = compute e.1

def CPcOK (compute : Key → V) : CPc V → Prop
  | .iter _ _ _ snap => DqOK compute snap
  | .compare _ _ _ snap it => DqOK compute snap ∧ it.2 = compute it.1
  | .append k v => v = compute k
  | _ => True

def CThreadOK (compute : Key → V) (th : CThread V) : Prop :=
  (∀ r ∈ th.rets, ∀ v, r.2 = .ok v → v = compute r.1) ∧ CPcOK compute th.pc

def CInv (compute : Key → V) (s : CState V) : Prop :=
  DqOK compute s.dq ∧ ∀ th ∈ s.threads, CThreadOK compute th

theorem cnext_inv (mode : Mode) (compute : Key → V) {dq : Cache V} (ver : Nat) {th : CThread V}
    (hd : DqOK compute dq) (h : CThreadOK compute th) :
    DqOK compute (cshared dq ver th).1 ∧ CThreadOK compute (cnext mode compute dq ver th) := by
  obtain ⟨pc, todo, rets⟩ := th
  obtain ⟨hrets, hpc⟩ := h
  cases pc with
  | idle =>
    cases todo with
    | nil => exact ⟨hd, hrets, trivial⟩
    | cons k ks => exact ⟨hd, hrets, trivial⟩
  | start k =>
    cases mode with
    | live => exact ⟨hd, hrets, List.forall_mem_nil _⟩
    | snapshot => exact ⟨hd, hrets, hd⟩
  | iter k seen idx snap =>
    cases mode with
    | live =>
      simp only [cshared, cnext]
      split
      · exact ⟨hd, List.forall_mem_cons.mpr ⟨nofun, hrets⟩, trivial⟩
      · cases hi : dq[idx]? with
        | none => exact ⟨hd, hrets, trivial⟩
        | some it => exact ⟨hd, hrets, hpc, hd it (List.mem_of_getElem? hi)⟩
    | snapshot =>
      simp only [cshared, cnext]
      cases hi : snap[idx]? with
      | none => exact ⟨hd, hrets, trivial⟩
      | some it => exact ⟨hd, hrets, hpc, hpc it (List.mem_of_getElem? hi)⟩
  | compare k seen idx snap it =>
    simp only [cshared, cnext]
    split
    next hk =>
      refine ⟨hd, List.forall_mem_cons.mpr ⟨?_, hrets⟩, trivial⟩
      rintro _ ⟨⟩
      rw [hpc.2, hk]
    · exact ⟨hd, hrets, hpc.1⟩
  | compute k => exact ⟨hd, hrets, rfl⟩
  | append k v =>
    refine ⟨forall_mem_append hd hpc, List.forall_mem_cons.mpr ⟨?_, hrets⟩, trivial⟩
    rintro _ ⟨⟩
    exact hpc

theorem cstep_inv (mode : Mode) (compute : Key → V) (t : Nat) (s : CState V) (h : CInv compute s) :
    CInv compute (cstep mode compute t s) := by
  cases ht : s.threads[t]? with
  | none => rw [cstep_none mode compute ht]; exact h
  | some th =>
    rw [cstep_some mode compute ht]
    have := cnext_inv mode compute s.ver h.1 (h.2 th (List.mem_of_getElem? ht))
    exact ⟨this.1, forall_set h.2 this.2⟩

theorem cinv_run (mode : Mode) (compute : Key → V) (dq : Cache V) (hd : DqOK compute dq)
    (progs : List (List Key)) (sched : List Nat) :
    CInv compute (runSched (cstep mode compute) sched (cinit dq progs)) :=
  run_inv (cstep mode compute) (CInv compute) (cstep_inv mode compute) sched _
    ⟨hd, List.forall_mem_map.mpr fun _ _ => ⟨List.forall_mem_nil _, trivial⟩⟩

/-- on the code as it is, a thread inside its loop has seen the current deque version; over a
private tuple the version is never consulted -/
def VerOK (mode : Mode) (ver : Nat) : CPc V → Prop
  | .iter _ seen _ _ => mode = .live → seen = ver
  | .compare _ seen _ _ _ => mode = .live → seen = ver
  | _ => True

def PInv (mode : Mode) (s : CState V) : Prop := ∀ th ∈ s.threads, NoErr th ∧ VerOK mode s.ver th.pc

theorem cnext_pinv (mode : Mode) (compute : Key → V) (dq : Cache V) (ver : Nat) {th : CThread V}
    (hn : NoErr th) (hv : VerOK mode ver th.pc) :
    NoErr (cnext mode compute dq ver th) ∧
      VerOK mode (cshared dq ver th).2 (cnext mode compute dq ver th).pc := by
  obtain ⟨pc, todo, rets⟩ := th
  cases pc with
  | idle =>
    cases todo with
    | nil => exact ⟨hn, trivial⟩
    | cons k ks => exact ⟨hn, trivial⟩
  | start k => cases mode <;> exact ⟨hn, fun _ => rfl⟩
  | iter k seen idx snap =>
    cases mode with
    | live =>
      -- the version test passes: no RuntimeError
      simp only [cshared, cnext]
      rw [if_neg (Decidable.not_not.mpr (hv rfl).symm)]
      split
      · exact ⟨hn, trivial⟩
      · exact ⟨hn, hv⟩
    | snapshot =>
      simp only [cshared, cnext]
      split
      · exact ⟨hn, trivial⟩
      · exact ⟨hn, nofun⟩
  | compare k seen idx snap it =>
    simp only [cshared, cnext]
    split
    · exact ⟨List.forall_mem_cons.mpr ⟨⟨_, rfl⟩, hn⟩, trivial⟩
    · exact ⟨hn, hv⟩
  | compute k => exact ⟨hn, trivial⟩
  | append k v => exact ⟨List.forall_mem_cons.mpr ⟨⟨_, rfl⟩, hn⟩, trivial⟩

theorem verOK_of_not_midIter {mode : Mode} {th : CThread V} (h : mode = .live → midIter th = false) (ver : Nat) :
    VerOK mode ver th.pc := by
  obtain ⟨pc, todo, rets⟩ := th
  cases pc with
  | iter _ _ _ _ => exact fun hm => nomatch h hm
  | compare _ _ _ _ _ => exact fun hm => nomatch h hm
  | _ => trivial

theorem cshared_ver (dq : Cache V) (ver : Nat) (th : CThread V) :
    (cshared dq ver th).2 = if atAppend th = true then ver + 1 else ver := by
  unfold cshared atAppend
  cases th.pc <;> rfl

theorem cstep_pinv (mode : Mode) (compute : Key → V) (t : Nat) (s : CState V) (h : PInv mode s)
    (hr : mode = .live → racyStep s t = false) : PInv mode (cstep mode compute t s) := by
  cases ht : s.threads[t]? with
  | none => rw [cstep_none mode compute ht]; exact h
  | some th =>
    rw [cstep_some mode compute ht]
    obtain ⟨hn, hv⟩ := h th (List.mem_of_getElem? ht)
    refine forall_set (fun u hu => ⟨(h u hu).1, ?_⟩) (cnext_pinv mode compute s.dq s.ver hn hv)
    simp only [cshared_ver]
    split
    next ha =>
      -- not racy: no thread is inside its loop, so nobody holds an old version
      refine verOK_of_not_midIter (fun hm => ?_) _
      have hnone := hr hm
      simp only [racyStep, ht, ha, Bool.true_and] at hnone
      exact Bool.eq_false_iff.mpr (List.any_eq_false.mp hnone u hu)
    · exact (h u hu).2

theorem cinit_pinv (mode : Mode) (dq : Cache V) (progs : List (List Key)) : PInv mode (cinit dq progs) :=
  List.forall_mem_map.mpr fun _ _ => ⟨List.forall_mem_nil _, trivial⟩

theorem run_pinv (mode : Mode) (compute : Key → V) (sched : List Nat) :
    ∀ s : CState V, PInv mode s →
      (mode = .live → Excluded_appendDuringIteration mode compute s sched = false) →
      PInv mode (runSched (cstep mode compute) sched s) := by
  induction sched with
  | nil => intro s h _; exact h
  | cons t ts ih =>
    intro s h hex
    simp only [Excluded_appendDuringIteration, Bool.or_eq_false_iff] at hex
    exact ih _ (cstep_pinv mode compute t s h fun hm => (hex hm).1) fun hm => (hex hm).2

theorem quantum_is_fine (mode : Mode) (compute : Key → V) (t : Nat) (s : CState V) :
    (quantum mode compute t s).1 = runSched (cstep mode compute) (quantum mode compute t s).2 s := by
  unfold quantum
  simp only
  split
  · split <;> rfl
  · rfl

end SparseV.C13
