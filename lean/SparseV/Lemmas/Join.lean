/-
  SparseV.Lemmas.Join — helper lemmas for joining (concatenate, stack) and for `diagonal`:
  lookups in entry lists laid side by side (blocks told apart by a coordinate) and the
  member-locating function of `concatenate`.
-/
import SparseV.Lemmas.Shape
import SparseV.Lemmas.Rewrite
import SparseV.Model.Join
namespace SparseV

theorem eq_set_of_set_eq {s t : List Nat} {axis : Nat} (h : t.set axis 0 = s.set axis 0) :
    t = s.set axis (t.getD axis 0) := by
  rw [← List.set_set (a := 0), ← h, List.set_set, set_getD_self]

theorem length_eq_of_set_eq {s t : List Nat} {axis : Nat} (h : t.set axis 0 = s.set axis 0) :
    t.length = s.length := by
  simpa using congrArg List.length h

namespace COO
variable {α : Type}

theorem lookup_append_tag (t : Idx → Nat) (m : Nat) {A B : List (Idx × α)} (hA : ∀ e ∈ A, t e.1 < m)
    (hB : ∀ e ∈ B, m ≤ t e.1) (d : α) (j : Idx) :
    lookup (A ++ B) d j = if t j < m then lookup A d j else lookup B d j := by
  rw [lookup_append]
  split
  next h =>
    rw [lookup_of_not_mem (es := B)]
    intro hm
    obtain ⟨e, he, rfl⟩ := mem_keysOf.mp hm
    exact Nat.lt_irrefl _ (Nat.lt_of_lt_of_le h (hB e he))
  next h =>
    apply lookup_of_not_mem
    intro hm
    obtain ⟨e, he, rfl⟩ := mem_keysOf.mp hm
    exact h (hA e he)

theorem nodup_append_tag (t : Idx → Nat) (m : Nat) {A B : List (Idx × α)} (hA : ∀ e ∈ A, t e.1 < m)
    (hB : ∀ e ∈ B, m ≤ t e.1) (hndA : (keysOf A).Nodup) (hndB : (keysOf B).Nodup) :
    (keysOf (A ++ B)).Nodup := by
  rw [keysOf_append, List.nodup_append]
  refine ⟨hndA, hndB, fun a ha b hb hab => ?_⟩
  obtain ⟨ea, hea, rfl⟩ := mem_keysOf.mp ha
  obtain ⟨eb, heb, rfl⟩ := mem_keysOf.mp hb
  have := hA ea hea
  rw [hab] at this
  exact Nat.lt_irrefl _ (Nat.lt_of_lt_of_le this (hB eb heb))

/-- `sorted=True` promised or the constructor's sort: all the same to a lookup -/
theorem lookup_sort_unless (c : Prop) [Decidable c] (shape : List Nat) (es : List (Idx × α)) (d : α) (j : Idx)
    (hnd : (keysOf es).Nodup) : lookup (if c then es else sortEntries shape es) d j = lookup es d j := by
  split
  · rfl
  · exact lookup_sortEntries shape es d j hnd

end COO

/-- `locate exts p`: the member number `k` whose range `[offset_k, offset_k + exts[k])` contains
position `p` (members of extent 0 are skipped), and the position `p - offset_k` inside it -/
def locate : List Nat → Nat → Nat × Nat
  | [], p => (0, p)
  | e :: es, p => if p < e then (0, p) else ((locate es (p - e)).1 + 1, (locate es (p - e)).2)

theorem locate_spec : ∀ (es : List Nat) (p : Nat), p < es.sum →
    (locate es p).1 < es.length ∧ (locate es p).2 < es.getD (locate es p).1 0 ∧
    (es.take (locate es p).1).sum + (locate es p).2 = p := by
  intro es p h
  fun_induction locate es p with
  | case1 p => simp at h
  | case2 e es p hp => exact ⟨Nat.succ_pos _, hp, Nat.zero_add p⟩
  | case3 e es p hp ih =>
    rw [List.sum_cons] at h
    obtain ⟨h1, h2, h3⟩ := ih (by omega)
    refine ⟨Nat.succ_lt_succ h1, h2, ?_⟩
    rw [List.take_succ_cons, List.sum_cons]
    omega

theorem locate_unique : ∀ (es : List Nat) (p k : Nat), k < es.length →
    (es.take k).sum ≤ p → p < (es.take k).sum + es.getD k 0 → locate es p = (k, p - (es.take k).sum) := by
  intro es
  induction es with
  | nil =>
    intro _ _ hk
    cases hk
  | cons e es ih =>
    intro p k hk h1 h2
    cases k with
    | zero =>
      rw [locate, if_pos (by simpa using h2)]
      rfl
    | succ k =>
      rw [List.take_succ_cons, List.sum_cons] at h1 h2
      rw [List.getD_cons_succ] at h2
      rw [locate, if_neg (by omega), ih (p - e) k (Nat.lt_of_succ_lt_succ hk) (by omega) (by omega),
        List.take_succ_cons, List.sum_cons, Nat.sub_sub]

namespace COO
variable {α : Type}

def exts (ys : List (COO α)) (axis : Nat) : List Nat := ys.map fun y => y.shape.getD axis 0

/-- the coordinate shift `concatenate` applies to a member placed at offset `off` -/
def shiftAx (axis off : Nat) (i : Idx) : Idx := i.set axis (i.getD axis 0 + off)

theorem concat_go_cons (axis : Nat) (y : COO α) (ys : List (COO α)) (off : Nat) :
    concatCore.go axis (y :: ys) off =
      (mapIdx (shiftAx axis off) y.entries ++ (concatCore.go axis ys (off + y.shape.getD axis 0)).1,
       (concatCore.go axis ys (off + y.shape.getD axis 0)).2) := rfl

theorem concat_go_snd (axis : Nat) (ys : List (COO α)) (off : Nat) :
    (concatCore.go axis ys off).2 = off + (exts ys axis).sum := by
  induction ys generalizing off with
  | nil => simp [concatCore.go, exts]
  | cons y ys ih =>
    rw [concat_go_cons]
    simp only [ih, exts, List.map_cons, List.sum_cons]
    omega

theorem shiftAx_getD (axis off : Nat) (i : Idx) (h : axis < i.length) :
    (shiftAx axis off i).getD axis 0 = i.getD axis 0 + off := getD_set_eq _ _ _ h

theorem unshift_shiftAx (axis off : Nat) (i : Idx) (h : axis < i.length) :
    (shiftAx axis off i).set axis ((shiftAx axis off i).getD axis 0 - off) = i := by
  rw [shiftAx_getD axis off i h]
  unfold shiftAx
  rw [List.set_set, Nat.add_sub_cancel, set_getD_self]

theorem shiftAx_unshift (axis off : Nat) (j : Idx) (h : off ≤ j.getD axis 0) :
    shiftAx axis off (j.set axis (j.getD axis 0 - off)) = j := by
  unfold shiftAx
  by_cases hl : axis < j.length
  · rw [getD_set_eq _ _ _ hl, List.set_set, Nat.sub_add_cancel h, set_getD_self]
  · have : j.length ≤ axis := by omega
    simp [List.set_eq_of_length_le, this]

theorem mem_shift_range {y : COO α} {axis off : Nat} (hwf : y.WF) (hr : axis < y.shape.length)
    {e : Idx × α} (he : e ∈ mapIdx (shiftAx axis off) y.entries) :
    off ≤ e.1.getD axis 0 ∧ e.1.getD axis 0 < off + y.shape.getD axis 0 := by
  obtain ⟨e0, he0, rfl⟩ := List.mem_map.mp he
  have hin := hwf e0 he0
  have := InB_getD_lt hin hr
  rw [shiftAx_getD axis off e0.1 (InB_length hin ▸ hr)]
  omega

theorem concat_go_key_range (axis : Nat) (ys : List (COO α)) (off : Nat)
    (hwf : ∀ y ∈ ys, y.WF) (hrank : ∀ y ∈ ys, axis < y.shape.length) :
    ∀ e ∈ (concatCore.go axis ys off).1,
      off ≤ e.1.getD axis 0 ∧ e.1.getD axis 0 < off + (exts ys axis).sum := by
  induction ys generalizing off with
  | nil => intro e he; cases he
  | cons y ys ih =>
    obtain ⟨hwfy, hwf'⟩ := List.forall_mem_cons.mp hwf
    obtain ⟨hry, hrank'⟩ := List.forall_mem_cons.mp hrank
    intro e he
    rw [concat_go_cons] at he
    simp only [exts, List.map_cons, List.sum_cons]
    rcases List.mem_append.mp he with h | h
    · have := mem_shift_range hwfy hry h
      omega
    · have := ih (off + y.shape.getD axis 0) hwf' hrank' e h
      simp only [exts] at this
      omega

theorem concat_go_lookup (axis : Nat) (z : COO α) (ys : List (COO α)) (off : Nat) (d : α) (j : Idx)
    (hwf : ∀ y ∈ ys, y.WF) (hrank : ∀ y ∈ ys, axis < y.shape.length)
    (hlo : off ≤ j.getD axis 0) (hhi : j.getD axis 0 < off + (exts ys axis).sum) :
    lookup (concatCore.go axis ys off).1 d j =
      lookup (ys.getD (locate (exts ys axis) (j.getD axis 0 - off)).1 z).entries d
        (j.set axis (locate (exts ys axis) (j.getD axis 0 - off)).2) := by
  induction ys generalizing off with
  | nil => simp only [exts, List.map_nil, List.sum_nil] at hhi; omega
  | cons y ys ih =>
    obtain ⟨hwfy, hwf'⟩ := List.forall_mem_cons.mp hwf
    obtain ⟨hry, hrank'⟩ := List.forall_mem_cons.mp hrank
    rw [concat_go_cons, lookup_append_tag (·.getD axis 0) (off + y.shape.getD axis 0)
      (fun e he => (mem_shift_range hwfy hry he).2) (fun e he => (concat_go_key_range axis ys _ hwf' hrank' e he).1)]
    simp only [exts, List.map_cons, List.sum_cons, locate] at hhi ⊢
    by_cases hp : j.getD axis 0 < off + y.shape.getD axis 0
    · rw [if_pos hp, if_pos (by omega), List.getD_cons_zero]
      exact mapIdx_lookup _ d _ (fun j => j.set axis (j.getD axis 0 - off)) j
        (fun e he => unshift_shiftAx axis off e.1 (InB_length (hwfy e he) ▸ hry)) (shiftAx_unshift axis off j hlo)
    · rw [if_neg hp, if_neg (by omega), List.getD_cons_succ,
        ih (off + y.shape.getD axis 0) hwf' hrank' (by omega) (by simp only [exts]; omega)]
      simp only [exts, Nat.sub_sub]

theorem concat_go_nodup (axis : Nat) (ys : List (COO α)) (off : Nat)
    (hwf : ∀ y ∈ ys, y.WF) (hrank : ∀ y ∈ ys, axis < y.shape.length)
    (hnd : ∀ y ∈ ys, (keysOf y.entries).Nodup) : (keysOf (concatCore.go axis ys off).1).Nodup := by
  induction ys generalizing off with
  | nil => exact List.nodup_nil
  | cons y ys ih =>
    obtain ⟨hwfy, hwf'⟩ := List.forall_mem_cons.mp hwf
    obtain ⟨hry, hrank'⟩ := List.forall_mem_cons.mp hrank
    obtain ⟨hndy, hnd'⟩ := List.forall_mem_cons.mp hnd
    rw [concat_go_cons]
    exact nodup_append_tag (·.getD axis 0) (off + y.shape.getD axis 0)
      (fun e he => (mem_shift_range hwfy hry he).2) (fun e he => (concat_go_key_range axis ys _ hwf' hrank' e he).1)
      (mapIdx_nodup _ _ (fun j => j.set axis (j.getD axis 0 - off))
        (fun e he => unshift_shiftAx axis off e.1 (InB_length (hwfy e he) ▸ hry)) hndy) (ih _ hwf' hrank' hnd')

theorem ravel_head_irrel (i : Idx) (d d' : Nat) (ds : List Nat) : ravel i (d :: ds) = ravel i (d' :: ds) := by
  cases i <;> rfl

theorem le_ravel_head (i : Idx) (tot : Nat) (ds : List Nat) : i.getD 0 0 * prod ds ≤ ravel i (tot :: ds) := by
  cases i with
  | nil => simp
  | cons i0 is => exact Nat.le_add_right ..

theorem sortedLin_append_head (tot m : Nat) (ds : List Nat) {A B : List (Idx × α)}
    (hA : ∀ e ∈ A, InB e.1 (m :: ds)) (hB : ∀ e ∈ B, m ≤ e.1.getD 0 0)
    (hsA : SortedLin (tot :: ds) A) (hsB : SortedLin (tot :: ds) B) : SortedLin (tot :: ds) (A ++ B) := by
  unfold SortedLin lin at *
  rw [List.map_append, List.pairwise_append]
  refine ⟨hsA, hsB, fun a ha b hb => ?_⟩
  obtain ⟨ea, hea, rfl⟩ := List.mem_map.mp ha
  obtain ⟨eb, heb, rfl⟩ := List.mem_map.mp hb
  have h1 := ravel_lt (hA ea hea)
  rw [ravel_head_irrel _ m tot, prod] at h1
  exact Nat.lt_of_lt_of_le h1
    (Nat.le_trans (Nat.mul_le_mul_right (prod ds) (hB eb heb)) (le_ravel_head eb.1 tot ds))

theorem concat_go_sorted0 (ds : List Nat) (tot : Nat) (ys : List (COO α)) (off : Nat)
    (hwf : ∀ y ∈ ys, y.WF) (hshape : ∀ y ∈ ys, ∃ dy, y.shape = dy :: ds)
    (hs : ∀ y ∈ ys, SortedLin y.shape y.entries) :
    SortedLin (tot :: ds) (concatCore.go 0 ys off).1 := by
  induction ys generalizing off with
  | nil => exact List.Pairwise.nil
  | cons y ys ih =>
    obtain ⟨hwfy, hwf'⟩ := List.forall_mem_cons.mp hwf
    obtain ⟨⟨dy, hy⟩, hshape'⟩ := List.forall_mem_cons.mp hshape
    obtain ⟨hsy, hs'⟩ := List.forall_mem_cons.mp hs
    have hrank' : ∀ z ∈ ys, 0 < z.shape.length := fun z hz => by
      obtain ⟨dz, hz⟩ := hshape' z hz
      rw [hz]
      exact Nat.succ_pos _
    have hcons : ∀ e ∈ y.entries, ∃ c cs, e.1 = c :: cs ∧ c < dy ∧ InB cs ds :=
      fun e he => InB_cons_right (hy ▸ hwfy e he)
    rw [concat_go_cons, hy, List.getD_cons_zero]
    refine sortedLin_append_head tot (off + dy) ds (fun e he => ?_)
      (fun e he => (concat_go_key_range 0 ys _ hwf' hrank' e he).1) ?_ (ih _ hwf' hshape' hs')
    · obtain ⟨e0, he0, rfl⟩ := List.mem_map.mp he
      obtain ⟨c, cs, hc, hlt, hcs⟩ := hcons e0 he0
      show InB (shiftAx 0 off e0.1) _
      rw [hc]
      exact ⟨show c + off < off + dy by omega, hcs⟩
    · refine mapIdx_sortedLin _ (off * prod ds) (fun e he => ?_) hsy
      obtain ⟨c, cs, hc, _, _⟩ := hcons e he
      rw [hy, hc]
      simp only [shiftAx, List.set_cons_zero, List.getD_cons_zero, ravel, Nat.add_mul]
      omega

/-- the entry list `stack` builds, with member numbers starting at `s` -/
def stackGo (axis s : Nat) (xs : List (COO α)) : List (Idx × α) :=
  (List.zip (List.range' s xs.length) xs).flatMap fun p => mapIdx (fun i => insertAt i axis p.1) p.2.entries

theorem stackGo_cons (axis s : Nat) (y : COO α) (ys : List (COO α)) :
    stackGo axis s (y :: ys) = mapIdx (fun i => insertAt i axis s) y.entries ++ stackGo axis (s + 1) ys := by
  simp [stackGo, List.range'_succ]

theorem mem_stack_part {y : COO α} {axis s : Nat} (hlen : ∀ e ∈ y.entries, axis ≤ e.1.length)
    {e : Idx × α} (he : e ∈ mapIdx (fun i => insertAt i axis s) y.entries) : e.1.getD axis 0 = s := by
  obtain ⟨e0, he0, rfl⟩ := List.mem_map.mp he
  exact getD_insertAt_self _ _ _ (hlen e0 he0)

theorem stackGo_key_range (axis : Nat) (ys : List (COO α)) (s : Nat)
    (hlen : ∀ y ∈ ys, ∀ e ∈ y.entries, axis ≤ e.1.length) :
    ∀ e ∈ stackGo axis s ys, s ≤ e.1.getD axis 0 := by
  induction ys generalizing s with
  | nil => intro e he; simp [stackGo] at he
  | cons y ys ih =>
    obtain ⟨hleny, hlen'⟩ := List.forall_mem_cons.mp hlen
    intro e he
    rw [stackGo_cons] at he
    rcases List.mem_append.mp he with h | h
    · exact Nat.le_of_eq (mem_stack_part hleny h).symm
    · exact Nat.le_of_succ_le (ih (s + 1) hlen' e h)

/-- axis 0: the `sorted=True` promise of `stack` -/
theorem stackGo_sorted0 (s : List Nat) (tot : Nat) (ys : List (COO α)) (k : Nat)
    (hwf : ∀ y ∈ ys, y.WF) (hshape : ∀ y ∈ ys, y.shape = s)
    (hs : ∀ y ∈ ys, SortedLin y.shape y.entries) : SortedLin (tot :: s) (stackGo 0 k ys) := by
  induction ys generalizing k with
  | nil => simp [stackGo, SortedLin, lin]
  | cons y ys ih =>
    obtain ⟨hwfy, hwf'⟩ := List.forall_mem_cons.mp hwf
    obtain ⟨hy, hshape'⟩ := List.forall_mem_cons.mp hshape
    obtain ⟨hsy, hs'⟩ := List.forall_mem_cons.mp hs
    rw [stackGo_cons]
    refine sortedLin_append_head tot (k + 1) s (fun e he => ?_)
      (stackGo_key_range 0 ys _ fun _ _ _ _ => Nat.zero_le _) ?_ (ih _ hwf' hshape' hs')
    · obtain ⟨e0, he0, rfl⟩ := List.mem_map.mp he
      show InB (insertAt e0.1 0 k) _
      rw [insertAt_zero]
      exact ⟨Nat.lt_succ_self k, hy ▸ hwfy e0 he0⟩
    · refine mapIdx_sortedLin _ (k * prod s) (fun e _ => ?_) hsy
      rw [insertAt_zero, hy]
      exact Nat.add_comm _ _

theorem stackCore_entries (x0 : COO α) (rest : List (COO α)) (axis : Nat) :
    (stackCore x0 rest axis).entries = if axis = 0 then stackGo axis 0 (x0 :: rest)
      else sortEntries (stackCore x0 rest axis).shape (stackGo axis 0 (x0 :: rest)) := by
  simp only [stackCore]
  rw [stackGo, List.range_eq_range']

theorem stackGo_lookup (axis : Nat) (z : COO α) (ys : List (COO α)) (s : Nat) (d : α) (i : Idx) (k : Nat)
    (hlen : ∀ y ∈ ys, ∀ e ∈ y.entries, axis ≤ e.1.length) (hi : axis ≤ i.length)
    (hlo : s ≤ k) (hhi : k < s + ys.length) :
    lookup (stackGo axis s ys) d (insertAt i axis k) = lookup (ys.getD (k - s) z).entries d i := by
  induction ys generalizing s with
  | nil => simp at hhi; omega
  | cons y ys ih =>
    obtain ⟨hleny, hlen'⟩ := List.forall_mem_cons.mp hlen
    rw [stackGo_cons, lookup_append_tag (·.getD axis 0) (s + 1)
      (fun e he => Nat.lt_succ_of_le (Nat.le_of_eq (mem_stack_part hleny he))) (stackGo_key_range axis ys _ hlen'),
      getD_insertAt_self i axis k hi]
    by_cases hk : k < s + 1
    · obtain rfl : k = s := by omega
      rw [if_pos hk, Nat.sub_self, List.getD_cons_zero]
      rw [mapIdx_lookup _ d _ (·.eraseIdx axis) _ (fun e he => eraseIdx_insertAt _ _ _ (hleny e he))
        (by rw [eraseIdx_insertAt axis i k hi]), eraseIdx_insertAt axis i k hi]
    · rw [if_neg hk, ih (s + 1) hlen' (by omega) (by simp only [List.length_cons] at hhi; omega)]
      obtain ⟨n, rfl⟩ : ∃ n, k = s + 1 + n := ⟨k - (s + 1), by omega⟩
      rw [Nat.add_sub_cancel_left, Nat.add_assoc, Nat.add_sub_cancel_left, Nat.add_comm 1 n, List.getD_cons_succ]

theorem stackGo_nodup (axis : Nat) (ys : List (COO α)) (s : Nat)
    (hlen : ∀ y ∈ ys, ∀ e ∈ y.entries, axis ≤ e.1.length)
    (hnd : ∀ y ∈ ys, (keysOf y.entries).Nodup) : (keysOf (stackGo axis s ys)).Nodup := by
  induction ys generalizing s with
  | nil => exact List.nodup_nil
  | cons y ys ih =>
    obtain ⟨hleny, hlen'⟩ := List.forall_mem_cons.mp hlen
    obtain ⟨hndy, hnd'⟩ := List.forall_mem_cons.mp hnd
    rw [stackGo_cons]
    exact nodup_append_tag (·.getD axis 0) (s + 1)
      (fun e he => Nat.lt_succ_of_le (Nat.le_of_eq (mem_stack_part hleny he))) (stackGo_key_range axis ys _ hlen')
      (mapIdx_nodup _ _ (·.eraseIdx axis) (fun e he => eraseIdx_insertAt _ _ _ (hleny e he)) hndy) (ih _ hlen' hnd')

theorem gather_getD (i : List Nat) (axes : List Nat) (k : Nat) (h : k < axes.length) :
    (gather i axes).getD k 0 = i.getD (axes.getD k 0) 0 := by
  simp [gather, List.getD_eq_getElem?_getD, h]

theorem gather_append (i : List Nat) (a b : List Nat) : gather i (a ++ b) = gather i a ++ gather i b := by
  simp [gather]

def diagOthers (n a1 a2 : Nat) : List Nat := (List.range n).filter fun a => a ≠ a1 ∧ a ≠ a2

theorem diagOthers_nodup (n a1 a2 : Nat) : (diagOthers n a1 a2).Nodup :=
  List.Nodup.sublist List.filter_sublist List.nodup_range

theorem mem_diagOthers {n a1 a2 a : Nat} : a ∈ diagOthers n a1 a2 ↔ a < n ∧ a ≠ a1 ∧ a ≠ a2 := by
  simp [diagOthers]

/-- the operand index a `diagonal` result index reads: kept coordinates go back to their axes, the
last coordinate `t` is the position along the diagonal, `axis1 ↦ t + max(-offset, 0)`,
`axis2 ↦ t + max(offset, 0)` -/
def diagSrc (n a1 a2 : Nat) (offset : Int) (j : Idx) : Idx :=
  (List.range n).map fun a =>
    if a = a1 then j.getD (diagOthers n a1 a2).length 0 + (-offset).toNat
    else if a = a2 then j.getD (diagOthers n a1 a2).length 0 + offset.toNat
    else j.getD ((diagOthers n a1 a2).idxOf a) 0

theorem diagSrc_length (n a1 a2 : Nat) (offset : Int) (j : Idx) : (diagSrc n a1 a2 offset j).length = n := by
  simp [diagSrc]

theorem diagSrc_getD (n a1 a2 : Nat) (offset : Int) (j : Idx) (a : Nat) (h : a < n) :
    (diagSrc n a1 a2 offset j).getD a 0 =
      if a = a1 then j.getD (diagOthers n a1 a2).length 0 + (-offset).toNat
      else if a = a2 then j.getD (diagOthers n a1 a2).length 0 + offset.toNat
      else j.getD ((diagOthers n a1 a2).idxOf a) 0 := getD_map_range _ _ _ 0 h

theorem diagSrc_a1 (n a1 a2 : Nat) (offset : Int) (j : Idx) (h : a1 < n) :
    (diagSrc n a1 a2 offset j).getD a1 0 = j.getD (diagOthers n a1 a2).length 0 + (-offset).toNat := by
  rw [diagSrc_getD _ _ _ _ _ _ h, if_pos rfl]

theorem diagSrc_a2 (n a1 a2 : Nat) (offset : Int) (j : Idx) (h : a2 < n) (hne : a1 ≠ a2) :
    (diagSrc n a1 a2 offset j).getD a2 0 = j.getD (diagOthers n a1 a2).length 0 + offset.toNat := by
  rw [diagSrc_getD _ _ _ _ _ _ h, if_neg (Ne.symm hne), if_pos rfl]

theorem diagSrc_other (n a1 a2 : Nat) (offset : Int) (j : Idx) (k : Nat) (hk : k < (diagOthers n a1 a2).length) :
    (diagSrc n a1 a2 offset j).getD ((diagOthers n a1 a2)[k]) 0 = j.getD k 0 := by
  have hm := mem_diagOthers.mp (List.getElem_mem hk)
  rw [diagSrc_getD _ _ _ _ _ _ hm.1, if_neg hm.2.1, if_neg hm.2.2,
    (diagOthers_nodup n a1 a2).idxOf_getElem k hk]

/-- the coordinate selection `diagonal` applies: kept axes, then `axis1` (offset ≥ 0) or `axis2` -/
def diagAxes (n a1 a2 : Nat) (offset : Int) : List Nat :=
  diagOthers n a1 a2 ++ [if offset ≥ 0 then a1 else a2]

theorem diagAxes_length (n a1 a2 : Nat) (offset : Int) :
    (diagAxes n a1 a2 offset).length = (diagOthers n a1 a2).length + 1 := by simp [diagAxes]

theorem diagSrc_gather (n a1 a2 : Nat) (offset : Int) (e : Idx) (he : e.length = n)
    (hP : (e.getD a1 0 : Int) + offset = (e.getD a2 0 : Int)) :
    diagSrc n a1 a2 offset (gather e (diagAxes n a1 a2 offset)) = e := by
  apply ext_getD (by rw [diagSrc_length, he])
  intro a ha
  rw [diagSrc_length] at ha
  rw [diagSrc_getD _ _ _ _ _ _ ha, gather_getD _ _ _ (by rw [diagAxes_length]; omega), diagAxes, getD_append_last]
  by_cases ha1 : a = a1
  · rw [if_pos ha1, ha1]
    split <;> omega
  · by_cases ha2 : a = a2
    · rw [if_neg ha1, if_pos ha2, ha2]
      split <;> omega
    · have hm : a ∈ diagOthers n a1 a2 := mem_diagOthers.mpr ⟨ha, ha1, ha2⟩
      have hlt := List.idxOf_lt_length_of_mem hm
      rw [if_neg ha1, if_neg ha2, gather_getD _ _ _ (by simp; omega), getD_append_left _ _ _ hlt, getD_idxOf hm]

theorem gather_diagSrc (n a1 a2 : Nat) (offset : Int) (j : Idx)
    (hjl : j.length = (diagOthers n a1 a2).length + 1) (h1 : a1 < n) (h2 : a2 < n) (hne : a1 ≠ a2) :
    gather (diagSrc n a1 a2 offset j) (diagAxes n a1 a2 offset) = j := by
  apply ext_getD (by rw [length_gather, diagAxes_length, hjl])
  intro k hk
  rw [length_gather] at hk
  rw [gather_getD _ _ _ hk, diagAxes]
  rw [diagAxes_length] at hk
  by_cases hko : k < (diagOthers n a1 a2).length
  · rw [getD_append_left _ _ _ hko, ← List.getElem_eq_getD (h := hko) 0, diagSrc_other n a1 a2 offset j k hko]
  · obtain rfl : k = (diagOthers n a1 a2).length := by omega
    rw [getD_append_last]
    split
    · rw [diagSrc_a1 _ _ _ _ _ h1]; omega
    · rw [diagSrc_a2 _ _ _ _ _ h2 hne]; omega

theorem diagSrc_sel (n a1 a2 : Nat) (offset : Int) (j : Idx) (h1 : a1 < n) (h2 : a2 < n) (hne : a1 ≠ a2) :
    ((diagSrc n a1 a2 offset j).getD a1 0 : Int) + offset = ((diagSrc n a1 a2 offset j).getD a2 0 : Int) := by
  rw [diagSrc_a1 n a1 a2 offset j h1, diagSrc_a2 n a1 a2 offset j h2 hne]
  omega

theorem InB_diagSrc (s : List Nat) (a1 a2 d : Nat) (offset : Int) (j : Idx)
    (h1 : a1 < s.length) (h2 : a2 < s.length) (hne : a1 ≠ a2) (hd1 : s.getD a1 0 = d) (hd2 : s.getD a2 0 = d)
    (hj : InB j (gather s (diagOthers s.length a1 a2) ++ [((d : Int) - (offset.natAbs : Int)).toNat])) :
    InB (diagSrc s.length a1 a2 offset j) s := by
  have hjt := InB_getD_lt hj (a := (gather s (diagOthers s.length a1 a2)).length) (by simp)
  rw [getD_append_last, length_gather] at hjt
  have hdiag : j.getD (diagOthers s.length a1 a2).length 0 + (-offset).toNat < d ∧
      j.getD (diagOthers s.length a1 a2).length 0 + offset.toNat < d := by omega
  rw [InB_iff_getD]
  refine ⟨diagSrc_length _ _ _ _ _, fun a ha => ?_⟩
  rw [diagSrc_length] at ha
  by_cases ha1 : a = a1
  · rw [ha1, diagSrc_a1 _ _ _ _ _ h1, hd1]
    exact hdiag.1
  · by_cases ha2 : a = a2
    · rw [ha2, diagSrc_a2 _ _ _ _ _ h2 hne, hd2]
      exact hdiag.2
    · have hm : a ∈ diagOthers s.length a1 a2 := mem_diagOthers.mpr ⟨ha, ha1, ha2⟩
      have hlt := List.idxOf_lt_length_of_mem hm
      have hb := InB_getD_lt hj (a := (diagOthers s.length a1 a2).idxOf a) (by simp [gather]; omega)
      rw [getD_append_left _ _ _ (by rwa [length_gather]), gather_getD _ _ _ hlt, getD_idxOf hm] at hb
      rwa [diagSrc_getD _ _ _ _ _ _ ha, if_neg ha1, if_neg ha2]

theorem InB_gather_diagAxes (s : List Nat) (a1 a2 d : Nat) (offset : Int) (e : Idx) (hin : InB e s)
    (h1 : a1 < s.length) (h2 : a2 < s.length) (hd1 : s.getD a1 0 = d) (hd2 : s.getD a2 0 = d)
    (hP : (e.getD a1 0 : Int) + offset = (e.getD a2 0 : Int)) :
    InB (gather e (diagAxes s.length a1 a2 offset))
      (gather s (diagOthers s.length a1 a2) ++ [((d : Int) - (offset.natAbs : Int)).toNat]) := by
  rw [diagAxes, gather_append, InB_append _ _ _ _ (by rw [length_gather, length_gather])]
  refine ⟨InB_gather hin (fun a ha => (mem_diagOthers.mp ha).1), ?_⟩
  have b1 := InB_getD_lt hin h1
  have b2 := InB_getD_lt hin h2
  simp only [gather, List.map_cons, List.map_nil, InB_cons, InB_nil, and_true]
  split <;> omega

theorem diagonalCore_eq [Add α] [DecidableEq α] (x : COO α) (offset : Int) (a1 a2 : Nat) :
    x.diagonalCore offset a1 a2 = COO.build
      (gather x.shape (diagOthers x.shape.length a1 a2) ++
        [((x.shape.getD (if offset ≥ 0 then a1 else a2) 0 : Int) - (offset.natAbs : Int)).toNat])
      (mapIdx (gather · (diagAxes x.shape.length a1 a2 offset))
        (x.entries.filter fun e => decide ((e.1.getD a1 0 : Int) + offset = (e.1.getD a2 0 : Int)))) x.fill := by
  have key : ∀ (S A : List Nat) (v : Nat) (f : Nat → Nat), S = A ++ [v] →
      S.set (S.length - 1) (f (S.getD (S.length - 1) 0)) = A ++ [f v] := by
    rintro _ A v f rfl
    simp
  exact congrArg (fun s => COO.build s _ x.fill)
    (key _ _ _ (fun v => ((v : Int) - (offset.natAbs : Int)).toNat) (gather_append ..))

end COO

end SparseV
