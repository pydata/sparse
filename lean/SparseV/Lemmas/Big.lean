/-
  SparseV.Lemmas.Big — the sparse-safe evaluation strategies of `Model/Big.lean` compute the same
  functions as the definitions they replace.
-/
import SparseV.Model.Big
namespace SparseV

theorem indptrSweepTR_eq : ∀ (n k : Nat) (rest : List Nat) (c : Nat) (acc : List Nat),
    indptrSweepTR n k rest c acc = acc.reverse ++ indptrSweep n k rest c
  | 0, _, _, _, acc => by simp [indptrSweepTR, indptrSweep]
  | n + 1, k, rest, c, acc => by
    simp only [indptrSweepTR, indptrSweep]
    rw [indptrSweepTR_eq n]
    simp

theorem takeWhile_lt_eq_filter (k : Nat) : ∀ (l : List Nat), l.Pairwise (· ≤ ·) →
    l.takeWhile (· < k) = l.filter (· < k)
  | [], _ => rfl
  | a :: l, h => by
    rw [List.pairwise_cons] at h
    by_cases ha : a < k
    · simp [ha, takeWhile_lt_eq_filter k l h.2]
    · have : l.filter (· < k) = [] := by
        rw [List.filter_eq_nil_iff]
        intro b hb
        have := h.1 b hb
        simp; omega
      simp [ha, this]

theorem countLt_append (a b : List Nat) (k : Nat) : countLt (a ++ b) k = countLt a k + countLt b k := by
  simp [countLt, List.filter_append]

theorem countLt_filter_lt (l : List Nat) (k j : Nat) (hkj : k ≤ j) :
    countLt (l.filter (· < k)) j = (l.filter (· < k)).length := by
  unfold countLt
  rw [List.filter_eq_self.mpr]
  intro a ha
  have := of_decide_eq_true (List.mem_filter.mp ha).2
  exact decide_eq_true (by omega)

theorem indptrSweep_eq : ∀ (n k : Nat) (rest : List Nat) (c : Nat), rest.Pairwise (· ≤ ·) →
    indptrSweep n k rest c = (List.range' k n).map fun j => c + countLt rest j
  | 0, _, _, _, _ => rfl
  | n + 1, k, rest, c, h => by
    have htw := takeWhile_lt_eq_filter k rest h
    simp only [indptrSweep, List.range'_succ, List.map_cons]
    rw [indptrSweep_eq n (k + 1) _ _ (h.sublist (List.dropWhile_sublist _)), htw]
    congr 1
    apply List.map_congr_left
    intro j hj
    have hj' := (List.mem_range'_1.mp hj).1
    have hsplit : countLt rest j = countLt (rest.filter (· < k)) j + countLt (rest.dropWhile (· < k)) j := by
      rw [← countLt_append, ← htw, List.takeWhile_append_dropWhile]
    rw [hsplit, countLt_filter_lt rest k j (by omega)]
    omega

/-- the single sweep computes `cumsum(bincount(rows, minlength=R))` for sorted row numbers -/
theorem indptrOfBig_eq (rows : List Nat) (R : Nat) (h : rows.Pairwise (· ≤ ·)) :
    indptrOfBig rows R = indptrOf rows R := by
  unfold indptrOfBig indptrOf
  rw [indptrSweepTR_eq, indptrSweep_eq _ _ _ _ h, List.range_eq_range']
  simp

theorem uncompressGoTR_eq : ∀ (p : List Nat) (i : Nat) (acc : List Nat),
    uncompressGoTR i p acc = acc.reverse ++ uncompressGo i p
  | [], _, _ => by simp [uncompressGoTR, uncompressGo]
  | [_], _, _ => by simp [uncompressGoTR, uncompressGo]
  | a :: b :: rest, i, acc => by
    simp only [uncompressGoTR, uncompressGo]
    rw [uncompressGoTR_eq (b :: rest)]
    simp [List.reverse_append, List.reverse_replicate]

theorem uncompressGo_eq : ∀ (p : List Nat) (i : Nat),
    uncompressGo i p = (List.range (p.length - 1)).flatMap fun j =>
      List.replicate (p.getD (j + 1) 0 - p.getD j 0) (i + j)
  | [], _ => by simp [uncompressGo]
  | [_], _ => by simp [uncompressGo]
  | a :: b :: rest, i => by
    simp only [uncompressGo]
    rw [uncompressGo_eq (b :: rest) (i + 1)]
    have hl : (a :: b :: rest).length - 1 = ((b :: rest).length - 1) + 1 := rfl
    rw [hl, List.range_succ_eq_map, List.flatMap_cons, List.flatMap_map]
    simp only [List.getD_cons_zero, List.getD_cons_succ, Nat.add_zero]
    congr 2
    funext j
    congr 1
    omega

/-- walking the pointer list once is `uncompress_dimension` -/
theorem uncompressBig_eq (p : List Nat) : uncompressBig p = uncompress p := by
  unfold uncompressBig uncompress
  rw [uncompressGoTR_eq, uncompressGo_eq]
  simp

namespace GCXS
variable {α : Type}

/-- the row numbers handed to `indptrOf` by `fromCooCore` are sorted -/
theorem rows_sorted (lin : List (Nat × α)) (colSize : Nat) :
    ((lin.mergeSort fun a b => decide (a.1 ≤ b.1)).map fun e => e.1 / colSize).Pairwise (· ≤ ·) := by
  have hs := List.pairwise_mergeSort (le := fun a b : Nat × α => decide (a.1 ≤ b.1))
    (fun a b c hab hbc => decide_eq_true (Nat.le_trans (of_decide_eq_true hab) (of_decide_eq_true hbc)))
    (fun a b => by simp only [Bool.or_eq_true, decide_eq_true_eq]; exact Nat.le_total ..) lin
  rw [List.pairwise_map]
  exact hs.imp fun h => Nat.div_le_div_right (of_decide_eq_true h)

theorem fromCooCoreBig_eq (x : COO α) (caxes : List Nat) : fromCooCoreBig x caxes = fromCooCore x caxes := by
  unfold fromCooCoreBig fromCooCore
  simp only []
  rw [indptrOfBig_eq _ _ (rows_sorted _ _)]

theorem fromCooBig_eq (x : COO α) (caxes : Option (List Nat)) : fromCooBig x caxes = fromCoo x caxes := by
  unfold fromCooBig
  split
  · rfl
  · rfl
  · rename_i n heq
    simp only [fromCooCoreBig_eq]
    unfold fromCoo
    rw [heq]
    rfl

theorem tocooBig_eq [Add α] [DecidableEq α] (g : GCXS α) : tocooBig g = tocoo g := by
  unfold tocooBig
  split
  · rfl
  · rename_i c heq
    simp only [uncompressBig_eq]
    unfold tocoo
    rw [heq]

end GCXS
end SparseV
