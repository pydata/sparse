/-
  SparseV.Lemmas.Range — basic indexing (integers, slices, `None`) of a COO array.  For a normalised slice
  `range(a, b, s)`, `t ↦ a + t*s` is a bijection between `[0, sliceLen a b s)` and the coordinates selected by
  `inSlice a b s`, with inverse `c ↦ (c - a) / s` (what `getitem` computes); `clip_slice` agrees with CPython's
  `slice.indices`; on a valid index `getitem`'s coordinate map `outOf` and `Spec.compose` invert each other,
  and `outOf` is strictly monotone when no step is negative.
-/
import SparseV.Spec.Getitem
import SparseV.Lemmas.Rewrite
import SparseV.Lemmas.Canonical
import SparseV.Lemmas.Gen.Slicing
namespace SparseV
open SparseV.Spec

/-- the length formula of Python's `range` -/
theorem lt_ceilDiv (m n : Int) (hm : 0 < m) (t : Nat) :
    t < ((n + m - 1) / m).toNat ↔ (t : Int) * m < n := by
  rw [Int.lt_toNat]
  have h1 : (t : Int) < (n + m - 1) / m ↔ (t : Int) + 1 ≤ (n + m - 1) / m := by omega
  rw [h1, Int.le_ediv_iff_mul_le hm, Int.add_mul]
  omega

theorem clipSlice_normalised (a b s dim : Int) (hs : s ≠ 0) :
    NormSlice (Gen.clipSlice a b s dim).1 (Gen.clipSlice a b s dim).2.1 (Gen.clipSlice a b s dim).2.2 dim := by
  rw [Gen.clipSlice_eq]
  unfold Ref.clipSlice
  by_cases h : 0 < s
  · rw [if_pos h]
    show NormSlice (min (max a 0) (min b dim)) (min b dim) s dim
    exact Or.inl ⟨h, Int.min_le_right _ _, Int.min_le_right _ _, fun hlt => by omega⟩
  · rw [if_neg h]
    show NormSlice (max (min a (dim - 1)) (max b (-1))) (max b (-1)) s dim
    exact Or.inr ⟨by omega, Int.le_max_right _ _, Int.le_max_right _ _, fun hlt => by omega⟩

/-- what `normalize_index` makes of a slice entry (`replace_none`, `posify_index`, `clip_slice`) -/
theorem normalizeSlice_normalised (start stop step : Option Int) (dim : Int) (hs : step ≠ some 0) :
    NormSlice (normalizeSlice start stop step dim).1 (normalizeSlice start stop step dim).2.1
      (normalizeSlice start stop step dim).2.2 dim := by
  refine clipSlice_normalised _ _ _ dim ?_
  simp only [Gen.posifySlice_eq, Gen.replaceNone_eq, Ref.posifySlice, Ref.replaceNone_step]
  cases step with
  | none => decide
  | some st => exact fun h => hs (congrArg some h)

/-- how Python reads one explicit bound `x` of a slice: posified, then clipped into `[lo, hi]`
(`[0, dim]` for a positive step, `[-1, dim - 1]` for a negative one) -/
theorem pyBound (x lo hi dim : Int) (h0 : lo ≤ 0) (hlh : lo ≤ hi) (hd : dim - 1 ≤ hi) :
    (if x < 0 then max (x + dim) lo else min x hi) = min (max (Ref.posifyInt dim x) lo) hi := by
  unfold Ref.posifyInt
  split
  · omega
  · omega

theorem clip_comm (x lo hi : Int) (h : lo ≤ hi) : min (max x lo) hi = max (min x hi) lo := by omega

theorem pyAdjust_of_pos (start stop : Option Int) (s dim : Int) (hd : 0 ≤ dim) (h : 0 < s) :
    pyAdjust start stop s dim =
      (min (max (Ref.posifyInt dim (start.getD 0)) 0) dim, max (min (Ref.posifyInt dim (stop.getD dim)) dim) 0, s) := by
  have h' : ¬ s < 0 := by omega
  simp only [pyAdjust, h', if_false, Prod.mk.injEq, and_true]
  constructor
  · cases start with
    | none => simp only [Option.getD, Ref.posifyInt]; omega
    | some a => exact pyBound a 0 dim dim (Int.le_refl 0) hd (by omega)
  · cases stop with
    | none => simp only [Option.getD, Ref.posifyInt]; omega
    | some a => exact (pyBound a 0 dim dim (Int.le_refl 0) hd (by omega)).trans (clip_comm _ 0 dim hd)

theorem pyAdjust_of_neg (start stop : Option Int) (s dim : Int) (hd : 0 ≤ dim) (h : s < 0) :
    pyAdjust start stop s dim =
      (max (min (Ref.posifyInt dim (start.getD (dim - 1))) (dim - 1)) (-1),
        min (max (Ref.posifyInt dim (stop.getD (-dim - 1))) (-1)) (dim - 1), s) := by
  have hlh : (-1 : Int) ≤ dim - 1 := by omega
  simp only [pyAdjust, h, if_true, Prod.mk.injEq, and_true]
  constructor
  · cases start with
    | none => simp only [Option.getD, Ref.posifyInt]; omega
    | some a => exact (pyBound a (-1) (dim - 1) dim (by omega) hlh (Int.le_refl _)).trans (clip_comm _ _ _ hlh)
  · cases stop with
    | none => simp only [Option.getD, Ref.posifyInt]; omega
    | some a => exact pyBound a (-1) (dim - 1) dim (by omega) hlh (Int.le_refl _)

/-- `clip_slice` clips the stop from one side only and the start against the stop, where Python
clips each bound from both sides.  The two triples are empty together and equal otherwise. -/
theorem clipSlice_spec_pos (A B s dim : Int) (hd : 0 ≤ dim) (h : 0 < s) :
    isEmpty (Ref.clipSlice A B s dim) = isEmpty (min (max A 0) dim, max (min B dim) 0, s) ∧
    (isEmpty (min (max A 0) dim, max (min B dim) 0, s) = false →
      Ref.clipSlice A B s dim = (min (max A 0) dim, max (min B dim) 0, s)) := by
  have hA := Int.le_max_right A 0
  have hB := Int.min_le_right B dim
  simp only [Ref.clipSlice, isEmpty, h, if_true, ge_iff_le, decide_eq_decide, decide_eq_false_iff_not,
    Prod.mk.injEq, and_true]
  generalize max A 0 = A' at hA ⊢
  generalize min B dim = B' at hB ⊢
  omega

theorem clipSlice_spec_neg (A B s dim : Int) (hd : 0 ≤ dim) (h : s < 0) :
    isEmpty (Ref.clipSlice A B s dim) = isEmpty (max (min A (dim - 1)) (-1), min (max B (-1)) (dim - 1), s) ∧
    (isEmpty (max (min A (dim - 1)) (-1), min (max B (-1)) (dim - 1), s) = false →
      Ref.clipSlice A B s dim = (max (min A (dim - 1)) (-1), min (max B (-1)) (dim - 1), s)) := by
  have h' : ¬ 0 < s := by omega
  have hA := Int.min_le_right A (dim - 1)
  have hB := Int.le_max_right B (-1)
  simp only [Ref.clipSlice, isEmpty, h', if_false, decide_eq_decide, decide_eq_false_iff_not,
    Prod.mk.injEq, and_true]
  generalize min A (dim - 1) = A' at hA ⊢
  generalize max B (-1) = B' at hB ⊢
  omega

theorem slice_fwd (a b s dim : Int) (h : NormSlice a b s dim) (t : Nat) (ht : t < sliceLen a b s) :
    0 ≤ a + (t : Int) * s ∧ a + (t : Int) * s < dim ∧ inSlice a b s (a + (t : Int) * s) = true ∧
      (a + (t : Int) * s - a) / s = (t : Int) := by
  have hdiv : (a + (t : Int) * s - a) = (t : Int) * s := by omega
  rcases h with ⟨hs, hab, hbd, ha⟩ | ⟨hs, hb, hba, ha⟩
  · have hs0 : s ≠ 0 := by omega
    simp only [sliceLen, hs, if_true] at ht
    split at ht
    · rename_i hlt
      have h1 := (lt_ceilDiv s (b - a) hs t).mp ht
      have h2 : 0 ≤ (t : Int) * s := Int.mul_nonneg (Int.natCast_nonneg t) (by omega)
      have ha' := ha hlt
      refine ⟨by omega, by omega, ?_, ?_⟩
      · simp only [inSlice, hs, if_true, hdiv, Int.mul_emod_left, decide_eq_true_eq]
        exact ⟨by omega, by omega, trivial⟩
      · rw [hdiv, Int.mul_ediv_cancel _ hs0]
    · omega
  · have hs0 : s ≠ 0 := by omega
    have hs1 : ¬ s > 0 := by omega
    simp only [sliceLen, hs, hs1, if_true, if_false] at ht
    split at ht
    · rename_i hlt
      have h1 := (lt_ceilDiv (-s) (a - b) (by omega) t).mp ht
      have h2 : 0 ≤ (t : Int) * (-s) := Int.mul_nonneg (Int.natCast_nonneg t) (by omega)
      rw [Int.mul_neg] at h1 h2
      have ha' := ha hlt
      refine ⟨by omega, by omega, ?_, ?_⟩
      · have hdiv' : a - (a + (t : Int) * s) = (t : Int) * (-s) := by rw [Int.mul_neg]; omega
        simp only [inSlice, hs, hs1, if_true, if_false, hdiv', Int.mul_emod_left, decide_eq_true_eq]
        exact ⟨by omega, by omega, trivial⟩
      · rw [hdiv, Int.mul_ediv_cancel _ hs0]
    · omega

theorem slice_bwd (a b s c : Int) (hin : inSlice a b s c = true) :
    ((c - a) / s).toNat < sliceLen a b s ∧ a + (((c - a) / s).toNat : Int) * s = c := by
  unfold inSlice at hin
  by_cases hs : s > 0
  · simp only [hs, if_true, decide_eq_true_eq] at hin
    obtain ⟨hac, hcb, hmod⟩ := hin
    have hq : (c - a) / s * s = c - a := Int.ediv_mul_cancel_of_emod_eq_zero hmod
    have hq0 : 0 ≤ (c - a) / s := Int.ediv_nonneg (by omega) (by omega)
    have hcast : (((c - a) / s).toNat : Int) = (c - a) / s := Int.toNat_of_nonneg hq0
    refine ⟨?_, by rw [hcast]; omega⟩
    have hab : a < b := by omega
    simp only [sliceLen, hs, hab, if_true]
    apply (lt_ceilDiv s (b - a) hs _).mpr
    rw [hcast]; omega
  · simp only [hs, if_false] at hin
    by_cases hs' : s < 0
    · simp only [hs', if_true, decide_eq_true_eq] at hin
      obtain ⟨hbc, hca, hmod⟩ := hin
      have hdvd : s ∣ (c - a) := by
        rw [← Int.neg_sub a c, Int.dvd_neg, ← Int.neg_dvd]
        exact Int.dvd_of_emod_eq_zero hmod
      have hq : (c - a) / s * s = c - a := Int.ediv_mul_cancel hdvd
      have hq0 : 0 ≤ (c - a) / s := Int.ediv_nonneg_of_nonpos_of_nonpos (by omega) (by omega)
      have hcast : (((c - a) / s).toNat : Int) = (c - a) / s := Int.toNat_of_nonneg hq0
      refine ⟨?_, by rw [hcast]; omega⟩
      have hab : b < a := by omega
      simp only [sliceLen, hs, hs', hab, if_true, if_false]
      apply (lt_ceilDiv (-s) (a - b) (by omega) _).mpr
      rw [hcast, Int.mul_neg]; omega
    · simp [hs'] at hin

theorem Spec.ValidIdx.induction {motive : ∀ idx shape, ValidIdx idx shape → Prop} (nil : motive [] [] trivial)
    (newaxis : ∀ rest shape (h : ValidIdx rest shape), motive rest shape h → motive (.newaxis :: rest) shape h)
    (int : ∀ n rest (d : Nat) ds (h0 : 0 ≤ n) (h1 : n < (d : Int)) (h : ValidIdx rest ds), motive rest ds h →
      motive (.int n :: rest) (d :: ds) ⟨⟨h0, h1⟩, h⟩)
    (slice : ∀ a b s rest (d : Nat) ds (hn : NormSlice a b s (d : Int)) (h : ValidIdx rest ds), motive rest ds h →
      motive (.slice a b s :: rest) (d :: ds) ⟨hn, h⟩) :
    ∀ idx shape (h : ValidIdx idx shape), motive idx shape h
  | [], [], _ => nil
  | .newaxis :: rest, shape, h => newaxis rest shape h (induction nil newaxis int slice rest shape h)
  | .int n :: rest, d :: ds, h =>
    int n rest d ds h.1.1 h.1.2 h.2 (induction nil newaxis int slice rest ds h.2)
  | .slice a b s :: rest, d :: ds, h =>
    slice a b s rest d ds h.1 h.2 (induction nil newaxis int slice rest ds h.2)

theorem validIdx_firstArrLen : ∀ (idx : List NIx) (shape : List Nat), ValidIdx idx shape →
    firstArrLen idx = none := by
  intro idx shape hv
  induction idx, shape, hv using ValidIdx.induction with
  | nil => rfl
  | newaxis _ _ _ ih => exact ih
  | int _ _ _ _ _ _ _ ih => exact ih
  | slice _ _ _ _ _ _ _ _ ih => exact ih

theorem outOf_newaxis {k : Nat} {rest : List NIx} {c j : Idx} {adv : Bool} :
    outOf k (.newaxis :: rest) c adv = some j ↔ ∃ j', outOf k rest c adv = some j' ∧ 0 :: j' = j := by
  simp only [outOf, Option.map_eq_some_iff]

theorem outOf_int_cons {k : Nat} {n : Int} {rest : List NIx} {ci : Nat} {cs j : Idx} {adv : Bool} :
    outOf k (.int n :: rest) (ci :: cs) adv = some j ↔ (ci : Int) = n ∧ outOf k rest cs adv = some j := by
  simp only [outOf, Option.ite_none_right_eq_some]

theorem outOf_slice_cons {k : Nat} {a b s : Int} {rest : List NIx} {ci : Nat} {cs j : Idx} {adv : Bool} :
    outOf k (.slice a b s :: rest) (ci :: cs) adv = some j ↔
      inSlice a b s ci = true ∧ ∃ j', outOf k rest cs adv = some j' ∧ (((ci : Int) - a) / s).toNat :: j' = j := by
  simp only [outOf, Option.ite_none_right_eq_some, Option.map_eq_some_iff]

theorem outOf_compose (k : Nat) (adv : Bool) (idx : List NIx) (shape : List Nat) (c j : Idx)
    (hv : ValidIdx idx shape) (hc : InB c shape) (h : outOf k idx c adv = some j) :
    compose idx j = c ∧ InB j (outShape idx adv) := by
  induction idx, shape, hv using ValidIdx.induction generalizing c j with
  | nil =>
    cases c with
    | nil => cases h; exact ⟨rfl, trivial⟩
    | cons => exact hc.elim
  | newaxis rest shape _ ih =>
    obtain ⟨j', hj', rfl⟩ := outOf_newaxis.mp h
    exact ⟨(ih c j' hc hj').1, Nat.one_pos, (ih c j' hc hj').2⟩
  | int n rest d ds _ _ _ ih =>
    obtain ⟨ci, cs, rfl, -, hcs⟩ := InB_cons_right hc
    obtain ⟨rfl, hr⟩ := outOf_int_cons.mp h
    obtain ⟨h1, h2⟩ := ih cs j hcs hr
    exact ⟨by rw [compose, h1, Int.toNat_natCast], h2⟩
  | slice a b s rest d ds _ _ ih =>
    obtain ⟨ci, cs, rfl, -, hcs⟩ := InB_cons_right hc
    obtain ⟨hin, j', hj', rfl⟩ := outOf_slice_cons.mp h
    obtain ⟨h1, h2⟩ := ih cs j' hcs hj'
    obtain ⟨hlen, hback⟩ := slice_bwd a b s ci hin
    exact ⟨by rw [compose, hback, h1, Int.toNat_natCast], hlen, h2⟩

theorem compose_outOf (k : Nat) (adv : Bool) (idx : List NIx) (shape : List Nat) (j : Idx)
    (hv : ValidIdx idx shape) (hj : InB j (outShape idx adv)) :
    outOf k idx (compose idx j) adv = some j ∧ InB (compose idx j) shape := by
  induction idx, shape, hv using ValidIdx.induction generalizing j with
  | nil =>
    cases j with
    | nil => exact ⟨rfl, trivial⟩
    | cons => exact hj.elim
  | newaxis rest shape _ ih =>
    obtain ⟨t, j', rfl, ht, hj'⟩ := InB_cons_right hj
    obtain rfl : t = 0 := by omega
    exact ⟨outOf_newaxis.mpr ⟨j', (ih j' hj').1, rfl⟩, (ih j' hj').2⟩
  | int n rest d ds h0 h1 _ ih =>
    have hcast : (n.toNat : Int) = n := Int.toNat_of_nonneg h0
    exact ⟨outOf_int_cons.mpr ⟨hcast, (ih j hj).1⟩, by omega, (ih j hj).2⟩
  | slice a b s rest d ds hn _ ih =>
    obtain ⟨t, j', rfl, ht, hj'⟩ := InB_cons_right hj
    obtain ⟨h0, hd, hin, hq⟩ := slice_fwd a b s d hn t ht
    have hcast : ((a + (t : Int) * s).toNat : Int) = a + (t : Int) * s := Int.toNat_of_nonneg h0
    refine ⟨outOf_slice_cons.mpr ⟨by rw [hcast, hin], j', (ih j' hj').1, ?_⟩, by omega, (ih j' hj').2⟩
    rw [hcast, hq, Int.toNat_natCast]

theorem outShape_of_not_hasOut (adv : Bool) : ∀ (idx : List NIx), hasOut idx = false → outShape idx adv = []
  | [], _ => rfl
  | .int n :: rest, h => outShape_of_not_hasOut adv rest h
  | .newaxis :: _, h => by cases h
  | .slice _ _ _ :: _, h => by cases h
  | .arr _ :: _, h => by cases h

theorem sliceLen_full (d : Nat) : sliceLen 0 (d : Int) 1 = d := by
  simp only [sliceLen, Int.one_pos, if_true, Int.sub_zero, Int.add_sub_cancel, Int.ediv_one]
  split <;> omega

/-- the full-slice shortcut of `getitem` -/
theorem isFull_spec (adv : Bool) (idx : List NIx) (shape : List Nat) (hl : idx.length = shape.length)
    (hall : ((List.zip idx shape).all fun p => match p.1 with
      | .slice a b s => decide (a = 0 ∧ b = (p.2 : Int) ∧ s = 1)
      | _ => false) = true) :
    outShape idx adv = shape ∧ ∀ j : Idx, j.length = idx.length → compose idx j = j := by
  induction idx generalizing shape with
  | nil =>
    obtain rfl := List.length_eq_zero_iff.mp hl.symm
    exact ⟨rfl, fun j hj => by rw [List.length_eq_zero_iff.mp hj]; rfl⟩
  | cons e rest ih =>
    cases shape with
    | nil => cases hl
    | cons d ds =>
      simp only [List.zip_cons_cons, List.all_cons, Bool.and_eq_true] at hall
      cases e with
      | slice a b s =>
        simp only [decide_eq_true_eq] at hall
        obtain ⟨⟨rfl, rfl, rfl⟩, hrest⟩ := hall
        obtain ⟨ih1, ih2⟩ := ih ds (Nat.succ.inj hl) hrest
        refine ⟨by rw [outShape, sliceLen_full, ih1], fun j hj => ?_⟩
        match j, hj with
        | t :: j', hj => rw [compose, ih2 j' (Nat.succ.inj hj), Int.mul_one, Int.zero_add, Int.toNat_natCast]
      | int _ => cases hall.1
      | newaxis => cases hall.1
      | arr _ => cases hall.1

theorem isFullIndex_spec (adv : Bool) (idx : List NIx) (shape : List Nat) (h : isFullIndex idx shape = true) :
    outShape idx adv = shape ∧ ∀ j : Idx, j.length = shape.length → compose idx j = j := by
  simp only [isFullIndex, Bool.and_eq_true, decide_eq_true_eq] at h
  have := isFull_spec adv idx shape h.1.1 h.2
  exact ⟨this.1, fun j hj => this.2 j (hj.trans h.1.1.symm)⟩

/-- the shortcut needs a non-empty index whose result shape is the operand shape, so the operand
would be 0-d and the index empty -/
theorem isFullIndex_of_not_hasOut (idx : List NIx) (shape : List Nat) (h : hasOut idx = false) :
    isFullIndex idx shape = false := by
  cases hf : isFullIndex idx shape with
  | false => rfl
  | true =>
    have hsh := (isFullIndex_spec false idx shape hf).1
    rw [outShape_of_not_hasOut false idx h] at hsh
    simp only [isFullIndex, Bool.and_eq_true, decide_eq_true_eq] at hf
    exact absurd (hf.1.1.trans (hsh ▸ rfl)) hf.1.2

theorem hasNegStep_tail {e : NIx} {rest : List NIx} (h : hasNegStep (e :: rest) = false) :
    hasNegStep rest = false :=
  (Bool.or_eq_false_iff.mp h).2

theorem hasNegStep_slice {a b s : Int} {rest : List NIx} (h : hasNegStep (.slice a b s :: rest) = false) :
    0 ≤ s :=
  Int.not_lt.mp (of_decide_eq_false (Bool.or_eq_false_iff.mp h).1)

theorem outOf_mono (k : Nat) (adv : Bool) (idx : List NIx) (shape : List Nat) (c c' j j' : Idx)
    (hv : ValidIdx idx shape) (hneg : hasNegStep idx = false) (hc : InB c shape) (hc' : InB c' shape) (hlt : c < c')
    (h : outOf k idx c adv = some j) (h' : outOf k idx c' adv = some j') : j < j' := by
  induction idx, shape, hv using ValidIdx.induction generalizing c c' j j' with
  | nil =>
    cases c with
    | nil => cases c' with
      | nil => exact absurd hlt (List.lt_irrefl _)
      | cons => exact hc'.elim
    | cons => exact hc.elim
  | newaxis rest shape _ ih =>
    obtain ⟨j1, hj1, rfl⟩ := outOf_newaxis.mp h
    obtain ⟨j1', hj1', rfl⟩ := outOf_newaxis.mp h'
    exact List.cons_lt_cons_iff.mpr
      (Or.inr ⟨rfl, ih c c' j1 j1' (hasNegStep_tail hneg) hc hc' hlt hj1 hj1'⟩)
  | int n rest d ds _ _ _ ih =>
    obtain ⟨ci, cs, rfl, -, hcs⟩ := InB_cons_right hc
    obtain ⟨ci', cs', rfl, -, hcs'⟩ := InB_cons_right hc'
    obtain ⟨rfl, hr⟩ := outOf_int_cons.mp h
    obtain ⟨heq, hr'⟩ := outOf_int_cons.mp h'
    rcases List.cons_lt_cons_iff.mp hlt with hl | ⟨_, hl⟩
    · omega
    · exact ih cs cs' j j' (hasNegStep_tail hneg) hcs hcs' hl hr hr'
  | slice a b s rest d ds _ _ ih =>
    obtain ⟨ci, cs, rfl, -, hcs⟩ := InB_cons_right hc
    obtain ⟨ci', cs', rfl, -, hcs'⟩ := InB_cons_right hc'
    obtain ⟨hin, j1, hj1, rfl⟩ := outOf_slice_cons.mp h
    obtain ⟨hin', j1', hj1', rfl⟩ := outOf_slice_cons.mp h'
    have hs := hasNegStep_slice hneg
    have hb := (slice_bwd a b s ci hin).2
    have hb' := (slice_bwd a b s ci' hin').2
    rcases List.cons_lt_cons_iff.mp hlt with hl | ⟨rfl, hl⟩
    · refine List.cons_lt_cons_iff.mpr (Or.inl ?_)
      have hlt' : ((((ci : Int) - a) / s).toNat : Int) * s < ((((ci' : Int) - a) / s).toNat : Int) * s := by
        omega
      have := Int.lt_of_mul_lt_mul_right hlt' hs
      omega
    · exact List.cons_lt_cons_iff.mpr
        (Or.inr ⟨rfl, ih cs cs' j1 j1' (hasNegStep_tail hneg) hcs hcs' hl hj1 hj1'⟩)

theorem normalizeEntry_int_ok (i : Int) (d : Nat) (h : NIx) (he : normalizeEntry (.int i) d = .ok h) :
    ∃ n, h = .int n ∧ 0 ≤ n ∧ n < (d : Int) := by
  simp only [normalizeEntry, normalizeInt_eq] at he
  split at he
  · rename_i v hv
    split at hv
    · rename_i hr
      simp only [Except.ok.injEq] at hv he
      subst he hv
      exact ⟨_, rfl, by split <;> omega⟩
    · cases hv
  · cases he

theorem go_valid : ∀ (es : List IxE) (dims : List Nat) (r : List NIx), (∀ e ∈ es, BasicIxE e) →
    (es.filter fun e => !e.isNone).length = dims.length → normalizeIndex.go es dims = .ok r →
    ValidIdx r dims
  | [], dims, r, _, hl, h => by
    cases h
    cases dims with
    | nil => trivial
    | cons => cases hl
  | .newaxis :: rest, dims, r, hb, hl, h => by
    obtain ⟨r', hg, h⟩ := bind_eq_ok h
    cases h
    exact go_valid rest dims r' (fun e he => hb e (List.mem_cons_of_mem _ he)) hl hg
  | .int i :: rest, [], _, _, hl, _ => by cases hl
  | .int i :: rest, d :: ds, r, hb, hl, h => by
    obtain ⟨hd, hn, h⟩ := bind_eq_ok h
    obtain ⟨r', hg, h⟩ := bind_eq_ok h
    cases h
    obtain ⟨n, rfl, hr⟩ := normalizeEntry_int_ok i d hd hn
    exact ⟨hr, go_valid rest ds r' (fun e he => hb e (List.mem_cons_of_mem _ he)) (Nat.succ.inj hl) hg⟩
  | .slice a b c :: rest, [], _, _, hl, _ => by cases hl
  | .slice a b c :: rest, d :: ds, r, hb, hl, h => by
    obtain ⟨hd, hn, h⟩ := bind_eq_ok h
    obtain ⟨r', hg, h⟩ := bind_eq_ok h
    cases h
    cases hn
    exact ⟨normalizeSlice_normalised a b c d (hb _ List.mem_cons_self),
      go_valid rest ds r' (fun e he => hb e (List.mem_cons_of_mem _ he)) (Nat.succ.inj hl) hg⟩
  | .ellipsis :: _, _, _, hb, _, _ => (hb _ List.mem_cons_self).elim
  | .arr _ :: _, _, _, hb, _, _ => (hb _ List.mem_cons_self).elim
  | .barr _ :: _, _, _, hb, _, _ => (hb _ List.mem_cons_self).elim

theorem isEllipsis_of_basic {e : IxE} (h : BasicIxE e) : e.isEllipsis = false := by
  cases e with
  | ellipsis => exact h.elim
  | _ => rfl

theorem replaceEllipsis_basic (n : Nat) (idx : List IxE) (hb : ∀ e ∈ idx, BasicIxE e) :
    replaceEllipsis n idx = .ok idx := by
  have : ((List.range idx.length).filter fun i => (idx.getD i .newaxis).isEllipsis) = [] := by
    rw [List.filter_eq_nil_iff]
    intro i hi
    have hi' : i < idx.length := List.mem_range.mp hi
    rw [getD_of_lt _ _ _ hi', isEllipsis_of_basic (hb _ (List.getElem_mem hi'))]
    exact Bool.false_ne_true
  rw [replaceEllipsis, this]

theorem normalizeIndex_validIdx (idx : List IxE) (shape : List Nat) (n : List NIx)
    (hb : ∀ e ∈ idx, BasicIxE e) (h : normalizeIndex idx shape = .ok n) : ValidIdx n shape := by
  unfold normalizeIndex at h
  simp only [replaceEllipsis_basic _ idx hb, bind, Except.bind] at h
  split at h
  · cases h
  · rename_i hgt
    refine go_valid _ shape n ?_ ?_ h
    · intro e he
      rcases List.mem_append.mp he with he | he
      · exact hb e he
      · rw [List.eq_of_mem_replicate he]; simp [fullSlice, BasicIxE]
    · simp only [List.filter_append, List.length_append, List.filter_replicate, fullSlice, IxE.isNone] at hgt ⊢
      simp at hgt ⊢
      omega

namespace COO
variable {α : Type}

/-- the `sorted=True` promise of `getitem` (selection level) -/
theorem rewrite_outOf_sortedLin (x : COO α) (idx : List NIx) (k : Nat) (adv : Bool) (hwf : x.WF)
    (hv : ValidIdx idx x.shape) (hneg : hasNegStep idx = false) (hs : SortedLin x.shape x.entries) :
    SortedLin (outShape idx adv) (rewrite (fun c => outOf k idx c adv) x.entries) := by
  unfold SortedLin lin rewrite at *
  rw [List.pairwise_map] at hs ⊢
  rw [List.pairwise_filterMap]
  refine List.Pairwise.imp_of_mem ?_ hs
  intro e e' he he' hlt p hp p' hp'
  simp only [Option.map_eq_some_iff] at hp hp'
  obtain ⟨j, hj, rfl⟩ := hp
  obtain ⟨j', hj', rfl⟩ := hp'
  have hin := hwf e he
  have hin' := hwf e' he'
  have hjj : j < j' :=
    outOf_mono k adv idx x.shape e.1 e'.1 j j' hv hneg hin hin' (lex_of_ravel_lt hin hin' hlt) hj hj'
  exact ravel_lt_of_lex (outOf_compose k adv idx x.shape e.1 j hv hin hj).2
    (outOf_compose k adv idx x.shape e'.1 j' hv hin' hj').2 hjj

theorem getitemN_eq (x : COO α) (idx : List NIx) (le : Bool) (hv : firstArrLen idx = none) :
    x.getitemN idx le =
      if isFullIndex idx x.shape then .arr x else
      if hasOut idx then
        .arr { shape := outShape idx false,
               entries := if hasNegStep idx then
                   sortEntries (outShape idx false) (rewrite (fun c => outOf 0 idx c false) x.entries)
                 else rewrite (fun c => outOf 0 idx c false) x.entries,
               fill := x.fill }
      else if le then .arr { shape := [], entries := rewrite (fun c => outOf 0 idx c false) x.entries, fill := x.fill }
      else match rewrite (fun c => outOf 0 idx c false) x.entries with
        | e :: _ => .scalar e.2
        | [] => .scalar x.fill := by
  unfold getitemN hasOut rewrite
  simp only [hv]
  cases hasNegStep idx <;> rfl

theorem scalar_sel (x : COO α) (idx : List NIx) (hwf : x.WF) (hv : ValidIdx idx x.shape)
    (ho : hasOut idx = false) :
    InB (compose idx []) x.shape ∧
    lookup (rewrite (fun c => outOf 0 idx c false) x.entries) x.fill [] = x.get (compose idx []) ∧
    ∀ e ∈ rewrite (fun c => outOf 0 idx c false) x.entries, e.1 = [] := by
  have hsh : outShape idx false = [] := outShape_of_not_hasOut false idx ho
  have hj : InB [] (outShape idx false) := by rw [hsh]; trivial
  obtain ⟨hout, hin⟩ := compose_outOf 0 false idx x.shape [] hv hj
  refine ⟨hin, ?_, ?_⟩
  · exact rewrite_lookup x.entries x.fill _ (compose idx) []
      (fun e he j' hj' => (outOf_compose 0 false idx x.shape e.1 j' hv (hwf e he) hj').1) hout
  · intro e' he'
    obtain ⟨e, he, j', hj', rfl⟩ := mem_rewrite.mp he'
    have := (outOf_compose 0 false idx x.shape e.1 j' hv (hwf e he) hj').2
    rw [hsh] at this
    cases j' with
    | nil => rfl
    | cons => simp at this

end COO
end SparseV
