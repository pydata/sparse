/-
  SparseV.Lemmas.Width — facts about `IdxTy` (ranges, `wrap`, the NumPy rules R1–R7, `min_scalar_type`, list
  max/min) and, per width-sensitive site of `Model/Width.lean`, the statement "exact whenever the values
  involved are representable" from which the C15 theorems are read off.  All statements hold for every width
  (`bits` is a variable).
-/
import SparseV.Model.Width
namespace SparseV
namespace IdxTy

theorem two_pow_pos (k : Nat) : (0 : Int) < (2 : Int) ^ k := Int.pow_pos (by decide)

theorem lo_le_zero (t : IdxTy) : t.lo ≤ 0 := by
  unfold lo
  split
  · have := two_pow_pos (t.bits - 1); omega
  · exact Int.le_refl 0

theorem hi_pos (t : IdxTy) : 0 < t.hi := by
  unfold hi
  split <;> exact two_pow_pos _

theorem signed_lo (t : IdxTy) (h : t.signed = true) : t.lo = -t.hi := by
  simp [lo, hi, h]

theorem unsigned_lo (t : IdxTy) (h : t.signed = false) : t.lo = 0 := by
  simp [lo, h]

theorem fits_zero (t : IdxTy) : t.fits 0 := ⟨lo_le_zero t, hi_pos t⟩

theorem wrap_of_fits {t : IdxTy} {n : Int} (h : t.fits n) : t.wrap n = n := by
  obtain ⟨h1, h2⟩ := h
  unfold wrap span
  rw [Int.emod_eq_of_lt (by omega) (by omega)]
  omega

theorem fits_wrap (t : IdxTy) (n : Int) : t.fits (t.wrap n) := by
  have hs : 0 < t.hi - t.lo := by have := lo_le_zero t; have := hi_pos t; omega
  have h1 := Int.emod_nonneg (n - t.lo) (Int.ne_of_gt hs)
  have h2 := Int.emod_lt_of_pos (n - t.lo) hs
  unfold wrap fits span
  omega

theorem fits_between {t : IdxTy} {a b x : Int} (ha : t.fits a) (hb : t.fits b) (h1 : a ≤ x) (h2 : x ≤ b) :
    t.fits x := ⟨Int.le_trans ha.1 h1, Int.lt_of_le_of_lt h2 hb.2⟩

theorem fits_of_nonneg_le {t : IdxTy} {b x : Int} (hb : t.fits b) (h0 : 0 ≤ x) (h : x ≤ b) : t.fits x :=
  ⟨Int.le_trans (lo_le_zero t) h0, Int.lt_of_le_of_lt h hb.2⟩

theorem i64_hi : i64.hi = 9223372036854775808 := by decide
theorem i64_lo : i64.lo = -9223372036854775808 := by decide

theorem two_pow_mono {a b : Nat} (h : a ≤ b) : (2 : Int) ^ a ≤ (2 : Int) ^ b := by
  rcases Nat.lt_or_eq_of_le h with h | h
  · exact Int.le_of_lt (Int.pow_lt_pow_of_lt (by decide) h)
  · rw [h]; exact Int.le_refl _

theorem fits_widen {t : IdxTy} (hs : t.signed = true) (b : Nat) {x : Int} (h : t.fits x) :
    (⟨true, max t.bits b⟩ : IdxTy).fits x := by
  have hm : (2 : Int) ^ (t.bits - 1) ≤ (2 : Int) ^ (max t.bits b - 1) := two_pow_mono (by omega)
  obtain ⟨h1, h2⟩ := h
  rw [signed_lo t hs] at h1
  rw [hi, if_pos hs] at h1 h2
  exact ⟨Int.le_trans (Int.neg_le_neg hm) h1, Int.lt_of_lt_of_le h2 hm⟩

end IdxTy

open IdxTy

theorem canStore_iff {t : IdxTy} {n : Int} : canStore t n = true ↔ t.fits n := by
  simp [canStore]

theorem castTo_of_fits {t : IdxTy} {n : Int} (h : t.fits n) : castTo t n = n := wrap_of_fits h

theorem arrPy_ok (t : IdxTy) (op : Op) (a k : Int) {r : Int} (hk : t.fits k) (he : op.eval a k = r) (hr : t.fits r) :
    arrPy t op a k = .ok r := by
  rw [arrPy, if_pos hk, he, wrap_of_fits hr]

theorem promote_intp (t : IdxTy) (h : ¬ (t.signed = false ∧ 64 ≤ t.bits)) (hb : t.bits ≤ 64) :
    promote t intp = some intp ∧ promote intp t = some intp := by
  obtain ⟨s, b⟩ := t
  have hb : b ≤ 64 := hb
  cases s with
  | true =>
    have h1 : max b 64 = 64 := by omega
    have h2 : max 64 b = 64 := by omega
    simp [promote, i64, h1, h2]
  | false =>
    have hlt : b < 64 := by
      simp only [true_and, Nat.not_le] at h
      exact h
    simp [promote, i64, hlt]

theorem arrNp_intp (t : IdxTy) (op : Op) (a k : Int) {r : Int} (h : ¬ (t.signed = false ∧ 64 ≤ t.bits)) (hb : t.bits ≤ 64)
    (he : op.eval a k = r) (hr : intp.fits r) : arrNp t intp op a k = some (intp, r) := by
  rw [arrNp, (promote_intp t h hb).1, he, Option.map, wrap_of_fits hr]

theorem pyMod_range (x d : Int) (hd : 0 < d) : 0 ≤ pyMod x d ∧ pyMod x d < d := by
  unfold pyMod
  rw [if_neg (by omega)]
  exact ⟨Int.fmod_nonneg_of_pos x hd, Int.fmod_lt_of_pos x hd⟩

theorem fits_of_ite_some {n : Int} {c : Prop} [Decidable c] {a r : IdxTy} {e : Option IdxTy}
    (h : (if c then some a else e) = some r) (ha : c → a.fits n) (he : e = some r → r.fits n) : r.fits n := by
  split at h
  · cases h; exact ha ‹c›
  · exact he h

/-- the bound of the chosen candidate was tested on the way to it; the other bound is `0 ≤ n` for the unsigned
candidates, and holds of every negative number for the signed ones -/
theorem minScalarType_fits {n : Int} {r : IdxTy} (h : minScalarType n = some r) : r.fits n := by
  unfold minScalarType at h
  by_cases h0 : 0 ≤ n
  · rw [if_pos h0] at h
    have hu : ∀ (b : Nat), n < 2 ^ b → (⟨false, b⟩ : IdxTy).fits n := fun _ hb => ⟨h0, hb⟩
    exact fits_of_ite_some h (hu 8) fun h => fits_of_ite_some h (hu 16) fun h => fits_of_ite_some h (hu 32) fun h =>
      fits_of_ite_some h (hu 64) nofun
  · rw [if_neg h0] at h
    have hs : ∀ (b : Nat), -(2 ^ (b - 1)) ≤ n → (⟨true, b⟩ : IdxTy).fits n :=
      fun b hb => ⟨hb, Int.lt_trans (Int.lt_of_not_ge h0) (two_pow_pos (b - 1))⟩
    exact fits_of_ite_some h (hs 8) fun h => fits_of_ite_some h (hs 16) fun h => fits_of_ite_some h (hs 32) fun h =>
      fits_of_ite_some h (hs 64) nofun

theorem isSome_ite_some {α : Type} (c : Prop) [Decidable c] (a : α) {e : Option α} (h : e.isSome = true) :
    (if c then some a else e).isSome = true := by
  split
  · rfl
  · exact h

theorem minScalarType_isSome {n : Int} (h0 : 0 ≤ n) (h : n < 2 ^ 64) : (minScalarType n).isSome = true := by
  unfold minScalarType
  rw [if_pos h0]
  exact isSome_ite_some _ _ (isSome_ite_some _ _ (isSome_ite_some _ _ (by rw [if_pos h]; rfl)))

theorem getOutDtype_fits {t r : IdxTy} {n : Int} (h : getOutDtype t n = some r) : r.fits n := by
  unfold getOutDtype at h
  split at h
  · rename_i hc
    cases h
    exact canStore_iff.mp hc
  · exact minScalarType_fits h

theorem getOutDtype_keeps {t : IdxTy} {n : Int} (h : t.fits n) : getOutDtype t n = some t := by
  simp [getOutDtype, canStore, h]

theorem getOutDtype_isSome (t : IdxTy) {n : Int} (h0 : 0 ≤ n) (h : n < 2 ^ 64) : (getOutDtype t n).isSome = true :=
  isSome_ite_some _ _ (minScalarType_isSome h0 h)

/- `listMax (x :: xs)` and `listMin (x :: xs)` are the values of `List.max?` and `List.min?` -/

theorem le_listMax : ∀ {xs : List Int} {x : Int}, x ∈ xs → x ≤ listMax xs
  | _ :: _, x, h => (List.max?_le_iff rfl).mp (Int.le_refl _) x h

theorem listMin_le : ∀ {xs : List Int} {x : Int}, x ∈ xs → listMin xs ≤ x
  | _ :: _, x, h => (List.le_min?_iff rfl).mp (Int.le_refl _) x h

theorem listMax_mem : ∀ {xs : List Int}, xs ≠ [] → listMax xs ∈ xs
  | [], h => absurd rfl h
  | _ :: _, _ => List.max?_mem rfl

theorem fits_of_listMax_listMin {t : IdxTy} {xs : List Int} (hmax : t.fits (listMax xs)) (hmin : t.fits (listMin xs))
    {x : Int} (h : x ∈ xs) : t.fits x :=
  fits_between hmin hmax (listMin_le h) (le_listMax h)

theorem fits_of_le_mem {t : IdxTy} {xs : List Int} (hmax : t.fits (listMax xs)) {n x : Int} (hn : n ∈ xs) (h0 : 0 ≤ x)
    (h : x ≤ n) : t.fits x := fits_of_nonneg_le hmax h0 (Int.le_trans h (le_listMax hn))

theorem fits_of_listMax {t : IdxTy} {xs : List Int} (hmax : t.fits (listMax xs)) {x : Int} (h : x ∈ xs) (h0 : 0 ≤ x) :
    t.fits x := fits_of_le_mem hmax h h0 (Int.le_refl x)

/-- the upcast `if not can_store(dt, max(shape)): dt = np.min_scalar_type(max(shape))` of `reshape` and
`concatenate` always finds a dtype, and keeps the operand's own when that holds the shape -/
theorem getOutDtype_listMax (t : IdxTy) {shape : List Int} (hne : shape ≠ []) (h : ∀ d ∈ shape, 0 ≤ d ∧ d < 2 ^ 64) :
    (getOutDtype t (listMax shape)).isSome = true ∧ (Holds t shape → getOutDtype t (listMax shape) = some t) :=
  have hm := h _ (listMax_mem hne)
  ⟨getOutDtype_isSome t hm.1 hm.2, fun hh => getOutDtype_keeps (hh _ (listMax_mem hne))⟩

theorem map_castTo_id (t : IdxTy) (n : Nat) (hn : t.fits n) (ps : List Nat) (h : ∀ p ∈ ps, p ≤ n) :
    ps.map (fun (p : Nat) => castTo t (p : Int)) = ps.map (fun (p : Nat) => (p : Int)) := by
  apply List.map_congr_left
  intro p hp
  have := h p hp
  exact wrap_of_fits (fits_of_nonneg_le hn (Int.natCast_nonneg p) (by omega))

/-! ## W1 COO `getitem` -/

theorem getitemInf_eq (c start step j : Int) (hs : step ≠ 0) (hc : c = start + j * step) :
    getitemCoordInf c start step = j := by
  unfold getitemCoordInf pyFloorDiv
  have : c - start = j * step := by omega
  rw [this, if_neg hs, Int.mul_fdiv_cancel j hs]

theorem abs_le_mul {j s : Int} (hj : 0 ≤ j) (hs : s ≠ 0) : j ≤ j * s ∨ j ≤ -(j * s) := by
  rcases Int.lt_or_gt_of_ne hs with h | h
  · right
    have : j * 1 ≤ j * (-s) := Int.mul_le_mul_of_nonneg_left (by omega) hj
    rw [Int.mul_one, Int.mul_neg] at this
    exact this
  · left
    have : j * 1 ≤ j * s := Int.mul_le_mul_of_nonneg_left (by omega) hj
    rw [Int.mul_one] at this
    exact this

/-- both intermediate values of `(c - start) // step` are at most `max c start` in absolute value, which a signed
type holds; an unsigned type holds them when the step is positive (`0 ≤ c - start ≤ c`) -/
theorem fits_slice_offset {t : IdxTy} {c start step j : Int} (h0 : 0 ≤ c) (hs0 : 0 ≤ start) (hc : t.fits c)
    (hst : t.fits start) (hstep : step ≠ 0) (hj : 0 ≤ j) (heq : c = start + j * step)
    (hsg : t.signed = true ∨ 0 < step) : t.fits (c - start) ∧ t.fits j := by
  have hd : c - start = j * step := by omega
  have habs := abs_le_mul hj hstep
  obtain ⟨c1, c2⟩ := hc
  obtain ⟨s1, s2⟩ := hst
  show (t.lo ≤ c - start ∧ c - start < t.hi) ∧ t.lo ≤ j ∧ j < t.hi
  rcases hsg with hsg | hsp
  · have := signed_lo t hsg
    omega
  · have := lo_le_zero t
    have : 0 ≤ j * step := Int.mul_nonneg hj (by omega)
    omega

theorem getitemCoord_ok {t : IdxTy} {c start step j : Int} (hst : t.fits start) (hfs : t.fits step) (hstep : step ≠ 0)
    (heq : c = start + j * step) (hfd : t.fits (c - start)) (hfj : t.fits j) :
    getitemCoord t c start step = .ok j := by
  unfold getitemCoord
  rw [arrPy_ok t .sub c start hst rfl hfd]
  exact arrPy_ok t .floordiv (c - start) step hfs (getitemInf_eq c start step j hstep heq) hfj

/-! ## W2 `_calc_counts_invidx` -/

theorem runStarts_lt : ∀ (gs : List Int) (i : Nat) (last : Int), ∀ p ∈ runStarts i last gs, p < i + gs.length
  | [], _, _, _, hp => nomatch hp
  | g :: gs, i, last, p, hp => by
    rw [runStarts] at hp
    rw [List.length_cons]
    split at hp
    · rcases List.mem_cons.mp hp with rfl | hp
      · omega
      · have := runStarts_lt gs (i + 1) g p hp; omega
    · have := runStarts_lt gs (i + 1) last p hp; omega

theorem invIdxInf_lt : ∀ (groups : List Int), ∀ p ∈ invIdxInf groups, p < groups.length
  | [], _, hp => nomatch hp
  | g :: gs, p, hp => by
    rw [List.length_cons]
    rcases List.mem_cons.mp hp with rfl | hp
    · omega
    · have := runStarts_lt gs 1 g p hp; omega

theorem runCounts_le (n : Nat) (ps : List Nat) (h : ∀ p ∈ ps, p ≤ n) : ∀ k ∈ runCounts n ps, k ≤ n := by
  induction ps with
  | nil => intro k hk; simp [runCounts] at hk
  | cons p rest ih =>
    cases rest with
    | nil => intro k hk; simp [runCounts] at hk; omega
    | cons q rest' =>
      intro k hk
      simp only [runCounts] at hk
      rcases List.mem_cons.mp hk with rfl | hk'
      · have := h q (by simp); omega
      · exact ih (fun p hp => h p (List.mem_cons_of_mem _ hp)) k hk'

theorem runStarts_replicate (g : Int) (rest : List Int) :
    ∀ (n i : Nat), runStarts i g (List.replicate n g ++ rest) = runStarts (i + n) g rest
  | 0, i => rfl
  | n + 1, i => by
    rw [List.replicate_succ, List.cons_append, runStarts, if_neg (fun h => h rfl), runStarts_replicate g rest n,
      Nat.add_assoc, Nat.add_comm 1 n]

/-! ## W4 COO `concatenate`, W11 GCXS `concatenate` / `stack` -/

/-- the step of `concatCoord` (non-zero offset) and `joinIndptrEntry`: cast to `r`, then `+= off` -/
theorem castAdd_exact (r : IdxTy) (m : Int) (hfit : r.fits m) (p off : Int) (hp : 0 ≤ p) (ho : 0 ≤ off) (hle : p + off ≤ m) :
    arrPy r .add (castTo r p) off = .ok (p + off) := by
  rw [castTo_of_fits (fits_of_nonneg_le hfit hp (by omega))]
  exact arrPy_ok r .add p off (fits_of_nonneg_le hfit ho (by omega)) rfl (fits_of_nonneg_le hfit (by omega) hle)

/-! ## W5 COO `roll` -/

theorem rollGuard_fits {t : IdxTy} {shape : List Int} {steps : List (Int × Int)} (hg : rollGuard t shape steps = true) :
    (∀ n ∈ shape, t.fits n) ∧ ∀ p ∈ steps, t.fits p.1 ∧ t.fits (p.2 + p.1) := by
  unfold rollGuard at hg
  rw [Bool.and_eq_true, canStore_iff, canStore_iff] at hg
  have hall : ∀ x ∈ rollLimits shape steps, t.fits x := fun x hx => fits_of_listMax_listMin hg.1 hg.2 hx
  unfold rollLimits at hall
  refine ⟨fun n hn => hall n ?_, fun p hp => ⟨hall _ ?_, hall _ ?_⟩⟩
  · exact List.mem_append_left _ (List.mem_append_left _ hn)
  · exact List.mem_append_left _ (List.mem_append_right _ (List.mem_map_of_mem hp))
  · exact List.mem_append_right _ (List.mem_map_of_mem (f := fun p : Int × Int => p.2 + p.1) hp)

/-- `coords += sh`; `hkind` excludes an unsigned array meeting an `np.int64` shift -/
theorem rollAdd_exact (t : IdxTy) (kind : ShiftKind) (c sh : Int) (hsh : t.fits sh) (hsum : t.fits (c + sh))
    (hkind : kind = .pyInt ∨ t.signed = true) : rollAdd t kind c sh = .ok (c + sh) := by
  unfold rollAdd
  cases kind with
  | pyInt => exact arrPy_ok t .add c sh hsh rfl hsum
  | npInt64 =>
    have hs : t.signed = true := by
      rcases hkind with h | h
      · cases h
      · exact h
    have hw := fits_widen hs 64 hsum
    simp only [iaddNp, promote, hs, i64, if_true, Bool.not_true, Bool.and_false, Bool.false_eq_true, if_false,
      wrap_of_fits hw, wrap_of_fits hsum]

/-- R4 with an `np.int64` operand and an unsigned target is a `TypeError` whatever the width -/
theorem rollAdd_unsigned_np (t : IdxTy) (hu : t.signed = false) (c sh : Int) :
    rollAdd t .npInt64 c sh = .error .value := by
  unfold rollAdd iaddNp promote
  simp only [hu, i64]
  by_cases hb : t.bits < 64
  · simp [hb]
  · simp [hb]

theorem rollStep_exact (t : IdxTy) (kind : ShiftKind) (c sh n : Int) (hsh : t.fits sh) (hn : t.fits n)
    (hnsh : t.fits (n + sh)) (hc0 : 0 ≤ c) (hcn : c < n) (hkind : kind = .pyInt ∨ t.signed = true) :
    rollStepW t kind c sh n = .ok (pyMod (c + sh) n) ∧ 0 ≤ pyMod (c + sh) n ∧ pyMod (c + sh) n < n := by
  have hr := pyMod_range (c + sh) n (by omega)
  have hsum : t.fits (c + sh) := by
    by_cases h : 0 ≤ sh
    · exact fits_of_nonneg_le hnsh (by omega) (by omega)
    · exact fits_between hsh hn (by omega) (by omega)
  refine ⟨?_, hr⟩
  unfold rollStepW
  rw [rollAdd_exact t kind c sh hsh hsum hkind]
  exact arrPy_ok t .mod (c + sh) n hn rfl (fits_of_nonneg_le hn hr.1 (by omega))

theorem rollAxis_exact (t : IdxTy) (kind : ShiftKind) (n : Int) (shs : List Int) (hn : t.fits n)
    (hshs : ∀ sh ∈ shs, t.fits sh ∧ t.fits (n + sh)) (hkind : kind = .pyInt ∨ t.signed = true) :
    ∀ c, 0 ≤ c → c < n → rollAxis t kind n shs c = .ok (rollAxisInf n shs c) := by
  induction shs with
  | nil => intro c _ _; rfl
  | cons sh rest ih =>
    intro c hc0 hcn
    have h := hshs sh (by simp)
    obtain ⟨h1, h2, h3⟩ := rollStep_exact t kind c sh n h.1 hn h.2 hc0 hcn hkind
    simp only [rollAxis, rollAxisInf, h1, bind, Except.bind]
    exact ih (fun s hs => hshs s (List.mem_cons_of_mem _ hs)) _ h2 h3

/-! ## W10 GCXS index dtype -/

theorem gcxsTy_fits {req : Option IdxTy} {t r : IdxTy} {rows cols nnz : Int}
    (h : gcxsTy req t rows cols nnz = .ok (some r)) : r.fits (max (max rows cols) nnz) := by
  unfold gcxsTy at h
  cases req with
  | some i =>
    simp only at h
    split at h
    · rename_i hc
      cases h
      exact canStore_iff.mp hc
    · cases h
  | none =>
    simp only [Except.ok.injEq] at h
    exact getOutDtype_fits h

end SparseV
