/-
  SparseV.Lemmas.Build — what the COO constructor's passes compute: `_sort_indices` permutes,
  `_sum_duplicates` adds up every run of equal coordinates, `_prune` drops fill-valued entries without
  changing any lookup.  Also the row-major enumeration `allIdx` (for `from_numpy` / `todense`).
-/
import SparseV.Lemmas.Canonical
import SparseV.Model.Convert
namespace SparseV
namespace COO

def valSum (es : List (Idx × Int)) (i : Idx) : Int :=
  ((es.filter (fun e => e.1 = i)).map (·.2)).sum

theorem valSum_cons (e : Idx × Int) (es : List (Idx × Int)) (i : Idx) :
    valSum (e :: es) i = if e.1 = i then e.2 + valSum es i else valSum es i := by
  unfold valSum
  by_cases h : e.1 = i
  · simp [h]
  · simp [h]

theorem valSum_of_not_mem {es : List (Idx × Int)} {i : Idx} (h : i ∉ keysOf es) : valSum es i = 0 := by
  induction es with
  | nil => rfl
  | cons e es ih =>
    simp only [keysOf, List.map_cons, List.mem_cons, not_or] at h
    rw [valSum_cons, if_neg (fun hh => h.1 hh.symm)]
    exact ih h.2

theorem valSum_perm {es es' : List (Idx × Int)} (hp : es.Perm es') (i : Idx) : valSum es i = valSum es' i := by
  induction hp with
  | nil => rfl
  | cons x _ ih => rw [valSum_cons, valSum_cons, ih]
  | swap x y l =>
    simp only [valSum_cons]
    by_cases h1 : x.1 = i
    · by_cases h2 : y.1 = i
      · simp only [if_pos h1, if_pos h2]
        exact Int.add_left_comm ..
      · simp only [if_pos h1, if_neg h2]
    · simp only [if_neg h1]
  | trans _ _ ih1 ih2 => rw [ih1, ih2]

theorem lookup_eq_valSum {es : List (Idx × Int)} (hnd : (keysOf es).Nodup) (d : Int) (i : Idx) :
    lookup es d i = if i ∈ keysOf es then valSum es i else d := by
  induction es with
  | nil => simp [keysOf]
  | cons e es ih =>
    obtain ⟨he, hnd⟩ := List.nodup_cons.mp hnd
    rw [lookup_cons, valSum_cons, ih hnd]
    by_cases h : e.1 = i
    · rw [if_pos h, if_pos h, if_pos (h ▸ List.mem_cons_self), valSum_of_not_mem (h ▸ he), Int.add_zero]
    · have hm : i ∈ keysOf (e :: es) ↔ i ∈ keysOf es :=
        List.mem_cons.trans (or_iff_right fun hi => h hi.symm)
      rw [if_neg h, if_neg h]
      simp only [hm]

/-- `hwf`: entries with the same linear location then have the same index -/
theorem valSum_sumDup (shape : List Nat) (es : List (Idx × Int)) (hwf : ∀ e ∈ es, InB e.1 shape) (i : Idx) :
    valSum (sumDup shape es) i = valSum es i ∧ (i ∈ keysOf (sumDup shape es) ↔ i ∈ keysOf es) := by
  fun_induction sumDup shape es with
  | case1 => exact ⟨rfl, Iff.rfl⟩
  | case2 e => exact ⟨rfl, Iff.rfl⟩
  | case3 e1 e2 rest heq ih =>
    have hk : e1.1 = e2.1 :=
      ravel_inj (hwf e1 List.mem_cons_self) (hwf e2 (List.mem_cons_of_mem _ List.mem_cons_self)) heq
    obtain ⟨ih1, ih2⟩ := ih fun e he => (List.mem_cons.mp he).elim
      (fun h => h ▸ hwf e1 List.mem_cons_self)
      fun h => hwf e (List.mem_cons_of_mem _ (List.mem_cons_of_mem _ h))
    rw [ih1, ih2]
    simp only [valSum_cons, keysOf, List.map_cons, List.mem_cons, ← hk, or_self_left]
    refine ⟨?_, trivial⟩
    split
    · exact Int.add_assoc _ _ _
    · rfl
  | case4 e1 e2 rest hne ih =>
    obtain ⟨ih1, ih2⟩ := ih fun e he => hwf e (List.mem_cons_of_mem _ he)
    refine ⟨by rw [valSum_cons, valSum_cons e1, ih1], ?_⟩
    simp only [keysOf, List.map_cons, List.mem_cons] at ih2 ⊢
    rw [ih2]

/-- `_sum_duplicates` adds up the runs -/
theorem sumDup_lookup (shape : List Nat) (es : List (Idx × Int)) (d : Int) (i : Idx)
    (hle : SortedLe shape es) (hwf : ∀ e ∈ es, InB e.1 shape) :
    lookup (sumDup shape es) d i = if i ∈ keysOf es then valSum es i else d := by
  rw [lookup_eq_valSum (sortedLin_keys_nodup shape _ (sumDup_sortedLin shape es hle)) d i,
    (valSum_sumDup shape es hwf i).1]
  simp only [(valSum_sumDup shape es hwf i).2]

theorem build_lookup (shape : List Nat) (es : List (Idx × Int)) (fill : Int) (prune : Bool)
    (hwf : ∀ e ∈ es, InB e.1 shape) (i : Idx) :
    (COO.build shape es fill false true prune).get i = if i ∈ keysOf es then valSum es i else fill := by
  have hle := sortEntries_sortedLe shape es
  have hwf' : ∀ e ∈ sortEntries shape es, InB e.1 shape := fun e he => hwf e (mem_sortEntries.mp he)
  have hp := sortEntries_perm shape es
  have hmain : lookup (sumDup shape (sortEntries shape es)) fill i
      = if i ∈ keysOf es then valSum es i else fill := by
    rw [sumDup_lookup shape _ fill i hle hwf', valSum_perm hp i]
    simp only [mem_keysOf_perm hp i]
  cases prune with
  | false =>
    unfold COO.build COO.get
    simpa using hmain
  | true =>
    have hnd := sortedLin_keys_nodup shape _ (sumDup_sortedLin shape _ hle)
    unfold COO.build COO.get
    simp only [Bool.false_eq_true, if_false, if_true]
    rw [lookup_prune fill _ i hnd]
    exact hmain

theorem build_lookup_nodup (shape : List Nat) (es : List (Idx × Int)) (fill : Int) (prune : Bool)
    (hwf : ∀ e ∈ es, InB e.1 shape) (hnd : (keysOf es).Nodup) (i : Idx) :
    (COO.build shape es fill false true prune).get i = lookup es fill i :=
  lookup_build_distinct shape es fill prune hnd hwf i

theorem allIdx_nodup (s : List Nat) : (allIdx s).Nodup := by
  have h : ((allIdx s).map (fun i => ravel i s)).Nodup := by rw [allIdx_ravel]; exact List.nodup_range
  unfold List.Nodup at h ⊢
  rw [List.pairwise_map] at h
  exact h.imp (fun {a b} hab heq => hab (by rw [heq]))

theorem map_lookup_zip {α : Type} (fill : α) (ks : List Idx) (vs : List α) (hnd : ks.Nodup)
    (hlen : ks.length = vs.length) : ks.map (fun i => lookup (ks.zip vs) fill i) = vs := by
  induction ks generalizing vs with
  | nil => exact (List.length_eq_zero_iff.mp hlen.symm).symm
  | cons k ks ih =>
    cases vs with
    | nil => cases hlen
    | cons v vs =>
      obtain ⟨hk, hnd'⟩ := List.nodup_cons.mp hnd
      rw [List.zip_cons_cons, List.map_cons, lookup_cons, if_pos rfl]
      congr 1
      refine (List.map_congr_left fun j hj => ?_).trans (ih vs hnd' (Nat.succ.inj hlen))
      rw [lookup_cons, if_neg fun (h : k = j) => hk (h ▸ hj)]

theorem map_lookup_zip_filter {α : Type} [DecidableEq α] (fill : α) (ks : List Idx) (vs : List α)
    (hnd : ks.Nodup) (hlen : ks.length = vs.length) :
    ks.map (fun i => lookup ((ks.zip vs).filter fun p => p.2 ≠ fill) fill i) = vs := by
  have hnd' : (keysOf (ks.zip vs)).Nodup := by
    rw [keysOf, List.map_fst_zip (Nat.le_of_eq hlen)]
    exact hnd
  exact (List.map_congr_left fun i _ => lookup_prune fill _ i hnd').trans (map_lookup_zip fill ks vs hnd hlen)

theorem fromDense_canonical {α : Type} [DecidableEq α] (shape : List Nat) (flat : List α) (fill : α) :
    (COO.fromDense shape flat fill).WF ∧ SortedLin shape (COO.fromDense shape flat fill).entries := by
  unfold COO.fromDense
  constructor
  · intro e he
    simp only at he ⊢
    exact mem_allIdx.mp (List.of_mem_zip (List.mem_filter.mp he).1).1
  · simp only
    unfold SortedLin lin
    have h1 : (((allIdx shape).zip flat).filter fun p => p.2 ≠ fill).Sublist ((allIdx shape).zip flat) :=
      List.filter_sublist
    have h2 := h1.map (fun e : Idx × α => ravel e.1 shape)
    have h3 : (((allIdx shape).zip flat).map fun e : Idx × α => ravel e.1 shape)
        = (((allIdx shape).zip flat).map Prod.fst).map (fun i => ravel i shape) := by
      rw [List.map_map]; rfl
    have h4 := (map_fst_zip_sublist (allIdx shape) flat).map (fun i => ravel i shape)
    rw [allIdx_ravel] at h4
    rw [h3] at h2
    exact List.pairwise_lt_range.sublist (h2.trans h4)

theorem fromDense_get {α : Type} [DecidableEq α] (shape : List Nat) (g : Idx → α) (fill : α) (i : Idx)
    (hi : InB i shape) : (COO.fromDense shape ((allIdx shape).map g) fill).get i = g i := by
  have hnd := sortedLin_keys_nodup _ _ (fromDense_canonical shape ((allIdx shape).map g) fill).2
  unfold COO.fromDense COO.get at *
  simp only at *
  rw [← List.map_prod_left_eq_zip] at *
  by_cases hv : g i = fill
  · rw [hv]
    apply lookup_of_not_mem
    intro hm
    obtain ⟨e, he, hk⟩ := mem_keysOf.mp hm
    obtain ⟨he1, he2⟩ := List.mem_filter.mp he
    obtain ⟨a, _, rfl⟩ := List.mem_map.mp he1
    simp only at hk
    subst hk
    simp [hv] at he2
  · apply lookup_of_mem hnd
    rw [List.mem_filter]
    refine ⟨List.mem_map.mpr ⟨i, mem_allIdx.mpr hi, rfl⟩, ?_⟩
    simp [hv]

theorem todense_fromDense_entries {α : Type} [DecidableEq α] (x : COO α) (hwf : x.WF)
    (hs : SortedLin x.shape x.entries) (hnf : x.NoFill) :
    (COO.fromDense x.shape x.todense x.fill).entries = x.entries := by
  have hnd := sortedLin_keys_nodup _ _ hs
  apply eq_of_sorted_of_mem_iff (fun e : Idx × α => ravel e.1 x.shape)
    (COO.fromDense x.shape x.todense x.fill).entries x.entries
    (fromDense_canonical x.shape x.todense x.fill).2 hs
  intro e
  unfold COO.fromDense COO.todense
  simp only
  rw [← List.map_prod_left_eq_zip, List.mem_filter]
  constructor
  · rintro ⟨h1, h2⟩
    obtain ⟨a, _, rfl⟩ := List.mem_map.mp h1
    simp only [ne_eq, decide_eq_true_eq] at h2
    have hk : a ∈ keysOf x.entries := by
      apply Classical.byContradiction
      intro hk
      exact h2 (lookup_of_not_mem hk)
    obtain ⟨e', he', rfl⟩ := mem_keysOf.mp hk
    have : x.get e'.1 = e'.2 := lookup_of_mem hnd he'
    rw [this]
    exact he'
  · intro he
    have hg : x.get e.1 = e.2 := lookup_of_mem hnd he
    refine ⟨List.mem_map.mpr ⟨e.1, mem_allIdx.mpr (hwf e he), by rw [hg]⟩, ?_⟩
    simpa using hnf e he

end COO
end SparseV
