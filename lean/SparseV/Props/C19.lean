/-
  Property C19 — creation functions and random() deliver exactly what was requested.

  `eye` theorems are stated over the definitions GENERATED from `_common.py:eye` (`Gen.eyeLen`,
  `Gen.eyeCoord`), the `random` theorems over the GENERATED sampler selection `Gen.randomBranch` of
  `_utils.py:random`: editing those functions changes what is proved here.  `algA`, `algD`, `reverse` are the
  hand models of SparseV.Model.Create; every floating-point decision in them is an ORACLE and the theorems
  hold FOR EVERY ORACLE subject only to `Spec.OracleOK` (three sign/range facts, asserted on each recorded
  run of the real code by the harness).  Outside these theorems: the distribution of the sample, and that
  algD terminates with probability one (here: an exhausted oracle is `Err.hang`, and nothing else can go wrong).
-/
import SparseV.Lemmas.Create
namespace SparseV.C19
open SparseV SparseV.COO SparseV.Create SparseV.Spec

/-- **eye_get.** For ALL `N`, `M` (given or defaulted to `N`), `k` — zero extents and `|k| ≥ N` or `M`
included — the element `(i, j)` of `eye(N, M, k)` is 1 on the `k`-th diagonal and 0 elsewhere (`np.eye`);
the shape is `(N, M)` and the fill value 0. -/
theorem eye_get (N : Nat) (M : Option Nat) (k : Int) (i j : Nat) (hi : i < N) (hj : j < M.getD N) :
    (eye N M k).get [i, j] = eyeVal k i j ∧ (eye N M k).shape = [N, M.getD N] ∧ (eye N M k).fill = 0 := by
  obtain ⟨r, c, D, rfl, h0, hD, he⟩ := eye_eq N M k
  rw [he]
  refine ⟨?_, rfl, rfl⟩
  rw [COO.get, lookup_diag, eyeVal]
  -- `(i, j)` is the entry number `i - r` if there is one and its column is `j`; for `j = i + k` there is one
  have := hD (i - r)
  by_cases h : (j : Int) = i + ((c : Int) - r)
  · rw [if_pos h, if_pos (by omega)]
  · rw [if_neg h, if_neg (by omega)]

/-- **eye_canonical.** The result of `eye` is canonical (every stored coordinate inside the shape,
coordinates strictly increasing in row-major order) although the constructor is called with
`sorted=True, has_duplicates=False` and runs no pass; and every stored value is 1 (none equals the fill). -/
theorem eye_canonical (N : Nat) (M : Option Nat) (k : Int) :
    (eye N M k).Canonical ∧ ∀ e ∈ (eye N M k).entries, e.2 = 1 := by
  obtain ⟨r, c, D, _, _, hD, he⟩ := eye_eq N M k
  rw [he]
  refine ⟨⟨fun e he => ?_, diag_sorted ..⟩, fun e he => ?_⟩
  · obtain ⟨t, ht, rfl⟩ := mem_diag he
    exact ⟨((hD t).mp ht).1, ((hD t).mp ht).2, trivial⟩
  · obtain ⟨t, _, rfl⟩ := mem_diag he
    rfl

/-- **eye_nnz.** `eye` stores exactly one element per row whose diagonal column `i + k` exists:
`nnz = #{ i < N | 0 ≤ i + k < M }` (0 when the diagonal misses the matrix). -/
theorem eye_nnz (N : Nat) (M : Option Nat) (k : Int) :
    (eye N M k).nnz
      = ((List.range N).filter fun (i : Nat) => decide (0 ≤ (i : Int) + k ∧ (i : Int) + k < (M.getD N : Nat))).length := by
  obtain ⟨r, c, D, rfl, h0, hD, he⟩ := eye_eq N M k
  rw [he, COO.nnz, diag_length]
  -- row `i` has a one exactly when `r ≤ i < r + D` (when `r` is beyond the last row there is none: `D = 0`)
  have hlast := hD (D - 1)
  refine (length_filter_range _ (min r N) D N (by omega) fun i hi => ?_).symm
  have := hD (i - r)
  rw [decide_eq_true_iff]
  rcases h0 with rfl | rfl <;> omega

/-- non-vacuity: a 3×4 matrix, first super-diagonal; a diagonal that misses the matrix; a zero extent -/
example : (eye 3 (some 4) 1).get [1, 2] = 1 ∧ (eye 3 (some 4) 1).get [1, 1] = 0 ∧ (eye 3 (some 4) 1).nnz = 3
    ∧ (eye 3 none (-3)).nnz = 0 ∧ (eye 0 (some 2) 0).nnz = 0 ∧ (eye 4 (some 2) (-3)).keys = [[3, 0]] := by decide

/-- **full_get.** `full(shape, v)` has the requested shape, reads `v` at every index, stores nothing and is
canonical; `zeros`, `ones`, `empty` are the instances `v = 0, 1, 0`. -/
theorem full_get {α : Type} (shape : List Nat) (v : α) (i : Idx) :
    (full shape v).get i = v ∧ (full shape v).shape = shape ∧ (full shape v).fill = v ∧
    (full shape v).nnz = 0 ∧ (full shape v).Canonical := by
  refine ⟨by simp [full, COO.get], rfl, rfl, rfl, ?_, ?_⟩
  · intro e he; simp [full] at he
  · simp [full, COO.keys]

theorem zeros_ones_empty_get (shape : List Nat) (i : Idx) :
    (zeros shape).get i = 0 ∧ (ones shape).get i = 1 ∧ (empty shape).get i = 0 ∧
    (zeros shape).shape = shape ∧ (ones shape).shape = shape ∧ (empty shape).shape = shape := by
  simp [zeros, ones, empty, full, COO.get]

/-- **like_shape_fill.** `full_like(a, v, shape=None)` takes the shape of `a` unless one is given, reads `v`
everywhere and ignores the contents and the fill value of `a`. -/
theorem like_shape_fill {α β : Type} (a : COO β) (v : α) (shape : Option (List Nat)) (i : Idx) :
    (fullLike a v shape).shape = shape.getD a.shape ∧ (fullLike a v shape).get i = v ∧
    (fullLike a v shape).nnz = 0 := by
  cases shape <;> simp [fullLike, full, COO.get, COO.nnz]

example : (full [2, 3] (7 : Int)).get [1, 2] = 7 ∧ (onesLike (full [2, 3] (7 : Int)) none).shape = [2, 3]
    ∧ (zerosLike (full [2, 3] (7 : Int)) (some [4])).shape = [4] := by decide

/-- **algA_inv.** For every sequence of skip requests `r` (no constraint at all) and every last sample
`0 ≤ last < N_final`, `algA(n, N)` with `1 ≤ n ≤ N` returns exactly `n` strictly increasing indices in
`[0, N)`. -/
theorem algA_inv (n N : Int) (hn : 1 ≤ n) (hN : n ≤ N) (r : Nat → Nat) (last : Int)
    (hl0 : 0 ≤ last) (hl1 : last < algAFinalN n N r) :
    ∃ arr, algA n N r last = .ok arr ∧ IsSample n N arr :=
  let ⟨arr, h, a, b, c⟩ := algA_ok n N hn hN r last hl0 hl1
  ⟨arr, h, a, b, c⟩

/-- the constraint on `last` is always satisfiable: the population left after the loop is at least 1 -/
theorem algA_oracle_satisfiable (n N : Int) (hn : 1 ≤ n) (hN : n ≤ N) (r : Nat → Nat) :
    1 ≤ algAFinalN n N r := algAFinalN_pos n N hn hN r

/-- **algD_inv.** For every candidate list with non-negative `S` (guard results and accept bits arbitrary):
if `algD(n, N)` returns, it returns exactly `n ≥ 1` strictly increasing indices in `[0, N - 1)` (so also in
`[0, N)`) and has consumed a prefix of the oracle; the only other outcome for `n ≥ 1` is `hang`
(oracle exhausted). -/
theorem algD_inv (n N : Int) (o : List Cand) (ho : ∀ c ∈ o, 0 ≤ c.1) :
    (∀ arr o', algD n N o = .ok (arr, o') → IsSample n N arr ∧ (∀ x ∈ arr, x < N - 1) ∧ ∀ c ∈ o', c ∈ o) ∧
    (∀ e, 1 ≤ n → algD n N o = .error e → e = .hang) := by
  refine ⟨fun arr o' h => ?_, fun e hn h => algD_error n N hn o e h⟩
  obtain ⟨a, _, b, c, d⟩ := algD_spec n N o ho arr o' h
  exact ⟨⟨a, b, fun x hx => ⟨(c x hx).1, by have := (c x hx).2; omega⟩⟩, fun x hx => (c x hx).2, d⟩

/-- **reverse_spec.** On a strictly increasing list `inv` of indices of `[0, N)`, `reverse(inv, N)` returns
the complement: strictly increasing, containing exactly the indices of `[0, N)` not in `inv`, of length
`N - len(inv)`. -/
theorem reverse_spec (inv : List Int) (N : Int) (hN : 0 ≤ N) (hp : inv.Pairwise (· < ·))
    (hr : ∀ v ∈ inv, 0 ≤ v ∧ v < N) :
    ∃ out, reverse inv N = .ok out ∧ out.Pairwise (· < ·) ∧ (∀ x, x ∈ out ↔ (0 ≤ x ∧ x < N ∧ x ∉ inv)) ∧
      (out.length : Int) + inv.length = N := reverse_ok inv N hN hp hr

/-- non-vacuity: algA with clamped requests, algD with a guard failure and a rejection, a hang, a complement,
and `reverse` losing nothing at the end of the range -/
example : algA 3 10 (fun t => [2, 9].getD t 0) 0 = .ok [2, 8, 9] ∧ algAFinalN 3 10 (fun t => [2, 9].getD t 0) = 1
    ∧ algD 3 20 [(5, true), (30, true), (2, false), (3, true), (1, true)] = .ok ([5, 9, 11], [])
    ∧ (algD 2 20 [(1, true), (25, true)]).toOption = none
    ∧ reverse [1, 3, 4] 6 = .ok [0, 2, 5] ∧ reverse [0] 3 = .ok [1, 2] ∧ reverse [3, 1] 6 = .error .index := by decide

/-- **random_branch_total.** For `0 ≤ nnz ≤ elements` the generated selection returns one of the seven
leaves, with the population `elements`, and calls every sampler inside its domain: `arange` only when
`nnz = elements`; `choice` with size 0 or 1 only; algD with `1 ≤ n < N`; algA with `1 ≤ n ≤ N`; the
complemented samplers with `n = elements - nnz`.  (The `10 ×` thresholds that choose between algA and algD are
performance choices; they are not part of the statement.) -/
theorem random_branch_total (nnz elements : Int) (dge1 : Bool) (h0 : 0 ≤ nnz) (h1 : nnz ≤ elements)
    (hd : dge1 = true → nnz = elements) :
    (Gen.randomBranch nnz elements dge1 = (0, nnz, elements) ∧ nnz = elements) ∨
    (Gen.randomBranch nnz elements dge1 = (1, nnz, elements) ∧ nnz < 2 ∧ nnz < elements) ∨
    (Gen.randomBranch nnz elements dge1 = (2, elements - nnz, elements) ∧ 2 ≤ nnz ∧ elements - nnz = 1) ∨
    (Gen.randomBranch nnz elements dge1 = (3, elements - nnz, elements) ∧ 1 ≤ elements - nnz ∧ 1 ≤ nnz) ∨
    (Gen.randomBranch nnz elements dge1 = (4, elements - nnz, elements) ∧ 1 ≤ elements - nnz ∧ 0 ≤ nnz) ∨
    (Gen.randomBranch nnz elements dge1 = (5, nnz, elements) ∧ 1 ≤ nnz ∧ 1 ≤ elements - nnz) ∨
    (Gen.randomBranch nnz elements dge1 = (6, nnz, elements) ∧ 1 ≤ nnz ∧ 0 ≤ elements - nnz) :=
  Gen.randomBranch_cases nnz elements dge1 h0 h1 hd

/-- **random_count_distinct_inrange.** For `0 ≤ nnz ≤ elements` (and `density ≥ 1` only together with
`nnz = elements`), FOR EVERY ORACLE satisfying `OracleOK`, whichever of the branches the generated selection
takes: if `random` gets an index list at all, it has exactly `nnz` entries, strictly increasing (hence distinct)
and inside `[0, elements)`; and the only way not to get one is algD not terminating within the oracle. -/
theorem random_count_distinct_inrange (nnz elements : Int) (dge1 : Bool) (o : Oracle)
    (h0 : 0 ≤ nnz) (h1 : nnz ≤ elements) (hd : dge1 = true → nnz = elements) (ok : OracleOK nnz elements dge1 o) :
    (∀ ind, randomIdx nnz elements dge1 o = .ok ind → IsSample nnz elements ind) ∧
    (∀ e, randomIdx nnz elements dge1 o = .error e → e = .hang) :=
  random_idx nnz elements dge1 o h0 h1 hd ok

/-- **random_coo_canonical.** The array `random` returns — constructor with default flags on the flat
index list, then `reshape(shape)` — has the requested shape and fill value, exactly `nnz` stored elements,
is canonical in the requested shape (in-range coordinates, strictly increasing in row-major order), and its
stored values are exactly the supplied `data_rvs(nnz)` in order. -/
theorem random_coo_canonical {α : Type} [Add α] [DecidableEq α] (shape : List Nat) (nnz : Int) (dge1 : Bool)
    (o : Oracle) (data : List α) (fill : α) (h0 : 0 ≤ nnz) (h1 : nnz ≤ (prod shape : Nat))
    (hd : dge1 = true → nnz = (prod shape : Nat)) (ok : OracleOK nnz (prod shape : Nat) dge1 o)
    (x : COO α) (h : random shape nnz dge1 o data fill = .ok x) :
    x.shape = shape ∧ x.fill = fill ∧ x.nnz = nnz.toNat ∧ x.Canonical ∧ x.vals = data :=
  random_coo shape nnz dge1 o data fill h0 h1 hd ok x h

/-- `random` returns an array whenever the sampler returns and `data_rvs` delivers as many values as indices
(so the hypothesis of `random_coo_canonical` is satisfiable exactly then) -/
theorem random_returns {α : Type} [Add α] [DecidableEq α] (shape : List Nat) (nnz : Int) (dge1 : Bool)
    (o : Oracle) (data : List α) (fill : α) (ind : List Int)
    (hi : randomIdx nnz (prod shape : Nat) dge1 o = .ok ind) (hl : ind.length = data.length) :
    ∃ x, random shape nnz dge1 o data fill = .ok x := by
  unfold random
  rw [hi]
  simp [hl]

/-- non-vacuity: an admissible oracle on the algA branch (6), the reverse∘algA branch (4) and the algD branch
(5, with a guard failure and a rejection), the index lists they produce, and an array that exists -/
def exO : Oracle := { choice := 0, skipsA := fun t => [1, 4, 0, 2].getD t 1, lastA := 0, candD := [(7, true), (50, true), (2, false), (3, true)] }
example : OracleOK 3 10 false exO ∧ randomIdx 3 10 false exO = .ok [1, 6, 7]
    ∧ OracleOK 7 10 false exO ∧ randomIdx 7 10 false exO = .ok [0, 2, 3, 4, 5, 8, 9]
    ∧ OracleOK 2 40 false exO ∧ randomIdx 2 40 false exO = .ok [7, 11] := by
  decide
example : ∃ x, random [2, 5] 3 false exO [10, 20, 30] (0 : Int) = .ok x :=
  random_returns [2, 5] 3 false exO [10, 20, 30] 0 [1, 6, 7] (by decide) (by decide)

end SparseV.C19
