/-
  Property C20 — the MLIR backend matches NumPy/SciPy and keeps its buffers alive.
  Property theorems only.  What they decide: the meaning of the storage formats (`toDense`), the
  bookkeeping of the NumPy/SciPy conversions, `_determine_format`, and the ownership graph.
  What they do NOT cover: the arithmetic, which MLIR-compiled code performs (no model executes it).
  All theorems are unbounded: every rank, shape, order permutation, array content, command history.
-/
import SparseV.Lemmas.Levels
import SparseV.Lemmas.Ownership
namespace SparseV.C20
open SparseV SparseV.Levels SparseV.COO

variable {α : Type}

/-- **dense_toDense.** For a dense format of ANY rank and ANY `order` permutation, the constituent
array means: element `i` of the array is `values[ravel(i[order], shape[order])]`. -/
theorem dense_toDense (f : Format) (shape : List Nat) (arrs : List (List Nat)) (vals : List α) (fill : α)
    (hd : f.isDense = true) (hv : f.valid = true) (hs : shape.length = f.rank) :
    toDense f shape arrs vals fill
      = (allIdx shape).map fun i => vals.getD (ravel (lvlIdx f.order i) (lvlShape f.order shape)) fill := by
  unfold toDense
  apply List.map_congr_left
  intro i hi
  exact dense_get f shape arrs vals fill hd hv hs i (mem_allIdx.mp hi)

/-- **csr_toDense.** The level semantics of (dense, compressed) with order (0,1) on the arrays
`(indptr, indices, data)` is the matrix a scipy CSR array with those fields encodes: the stored
elements are, in storage order, `(row of position q, indices[q]) ↦ data[q]` (COO-style lookup). -/
theorem csr_toDense (f : Format) (R C : Nat) (indptr indices : List Nat) (data : List α) (fill : α)
    (hk : f.kinds = [.dense, .compressed]) (ho : f.order = [0, 1])
    (hlen : indptr.length = R + 1) (hip : IndptrOk indptr) :
    toDense f [R, C] [indptr, indices] data fill
      = (allIdx [R, C]).map (lookup ((Scipy.csx true [R, C] indptr indices data).triples fill) fill) := by
  unfold toDense Levels.get
  rw [csx_entries f true R C indptr indices data fill hk ho hlen hip]

/-- **csc_toDense.** Same levels with order (1,0): the compressed level runs over the rows of each
column; the arrays mean the scipy CSC matrix with those fields. -/
theorem csc_toDense (f : Format) (R C : Nat) (indptr indices : List Nat) (data : List α) (fill : α)
    (hk : f.kinds = [.dense, .compressed]) (ho : f.order = [1, 0])
    (hlen : indptr.length = C + 1) (hip : IndptrOk indptr) :
    toDense f [R, C] [indptr, indices] data fill
      = (allIdx [R, C]).map (lookup ((Scipy.csx false [R, C] indptr indices data).triples fill) fill) := by
  unfold toDense Levels.get
  rw [csx_entries f false R C indptr indices data fill hk ho hlen hip]

/-- **coo_toDense_nd** (any rank). A COO format (one compressed level, then singleton levels) stores
one element per position `q ∈ [pos[0], pos[1])` whose coordinates are read off the coordinate
arrays at `q`. -/
theorem coo_toDense_nd (f : Format) (shape : List Nat) (pos crd0 : List Nat) (crds : List (List Nat))
    (vals : List α) (fill : α)
    (hk : f.kinds = .compressed :: List.replicate crds.length .singleton)
    (hs : (lvlShape f.order shape).length = crds.length + 1) :
    toDense f shape (pos :: crd0 :: crds) vals fill
      = (allIdx shape).map (lookup
          ((List.range' (pos.getD 0 0) (pos.getD 1 0 - pos.getD 0 0)).map fun q =>
            (dimIdx f.order (crd0.getD q 0 :: crds.map fun c => c.getD q 0), vals.getD q fill)) fill) := by
  unfold toDense Levels.get
  rw [coo_entries f shape pos (crd0 :: crds) vals fill (List.cons_ne_nil _ _) hk hs]
  rfl

/-- **coo_toDense.** The 2-d instance `_from_scipy` builds (`pos = [0, nnz]`, order (0,1)) means the
scipy COO matrix `(row, col, data)`. -/
theorem coo_toDense (f : Format) (R C : Nat) (row col : List Nat) (data : List α) (fill : α)
    (hk : f.kinds = [.compressed, .singleton]) (ho : f.order = [0, 1]) :
    toDense f [R, C] [[0, data.length], row, col] data fill
      = (allIdx [R, C]).map (lookup ((Scipy.coo [R, C] row col data).triples fill) fill) := by
  rw [coo_toDense_nd f [R, C] [0, data.length] row [col] data fill hk (by rw [ho]; rfl)]
  simp only [Scipy.triples, ho, List.range_eq_range']
  rfl

/-- **coo_encode_toDense.** For every rank ≥ 1: the COO encoding (`pos = [0, nnz]`, one coordinate array per
dimension, values) of ANY entry list — duplicates and explicit zeros included — means the array that
`SparseV.COO.lookup` reads from that entry list, and stores the entries in the same order. -/
theorem coo_encode_toDense (f : Format) (shape : List Nat) (es : List (Idx × α)) (n : Nat) (fill : α)
    (hk : f.kinds = .compressed :: List.replicate n .singleton) (ho : f.order = List.range (n + 1))
    (hs : shape.length = n + 1) (hkeys : ∀ e ∈ es, e.1.length = n + 1) :
    toDense f shape (cooEncode es (n + 1)) (es.map (·.2)) fill = (allIdx shape).map (lookup es fill)
    ∧ entries f shape (cooEncode es (n + 1)) (es.map (·.2)) fill = es := by
  have h := coo_encode_entries f shape es n fill hk ho hkeys
  refine ⟨?_, h⟩
  unfold toDense Levels.get
  rw [h]

/-- a well-formed 2-d scipy array: a monotone index pointer of the right length (CSR / CSC), a 2-d shape -/
def ScipyWf : Scipy α → Prop
  | .csx csr shape indptr _ _ => IndptrOk indptr ∧ ∃ R C, shape = [R, C] ∧ indptr.length = (if csr then R else C) + 1
  | .coo shape _ _ _ => ∃ R C, shape = [R, C]

/-- **from_scipy_meaning.** Whatever `_from_scipy` accepts means, under the level semantics, the
scipy array it was made from (CSR, CSC and COO alike). -/
theorem from_scipy_meaning (s : Scipy α) (m : ScipyMeta) (x : MArr α) (fill : α)
    (hx : fromScipy s m = .ok x)
    (hwf : ScipyWf s) :
    x.dense fill = (allIdx s.shape).map (s.get fill) := by
  cases s with
  | csx csr shape indptr indices data =>
    obtain ⟨hip, R, C, rfl, hlen⟩ := hwf
    obtain ⟨f, rfl, hk, ho⟩ := fromScipy_csx hx
    unfold MArr.dense toDense Levels.get Scipy.get
    rw [csx_entries f csr R C indptr indices data fill hk ho hlen hip]
    rfl
  | coo shape row col data =>
    obtain ⟨R, C, rfl⟩ := hwf
    obtain ⟨f, rfl, hk, ho⟩ := fromScipy_coo hx
    exact coo_toDense f R C row col data fill hk ho

/-- **to_numpy_from_numpy_id.** `to_numpy(asarray(a)) = a` for every rank (0-d included), every
shape, every content: the dense round trip through `_from_numpy`'s C-ordered format. -/
theorem to_numpy_from_numpy_id [Inhabited α] (a : DArr α) (dtype : String) (hlen : a.flat.length = prod a.shape) :
    toNumpy (fromNumpy a dtype) = .ok a := by
  rw [fromNumpy_eq_encodeDense a dtype hlen]
  exact toNumpyWith_encodeDense _ a dtype .argOrder (List.Perm.refl _) hlen fun _ => by rw [invPerm_range]; rfl

/-- the inputs on which gathering `storage_shape` by `arg_order` (`ShapeFrom.argOrder`: `to_numpy` until /repo b82f305) goes
wrong: the extents gathered by the
inverse permutation differ from the level extents (impossible when `order` is its own inverse,
hence for every rank ≤ 2 and for C/F order) -/
def ExcludedOrder (order shape : List Nat) : Prop := gather shape (invPerm order) ≠ lvlShape order shape
instance (order shape : List Nat) : Decidable (ExcludedOrder order shape) := by unfold ExcludedOrder; infer_instance

/-- the full dense round trip for every order permutation: store `a` in the dense format with
level order `order`, convert back with `to_numpy` -/
def Statement_dense_roundtrip (sf : ShapeFrom) : Prop :=
  ∀ (order : List Nat) (a : DArr Int) (dtype : String),
    order.Perm (List.range a.shape.length) → a.flat.length = prod a.shape →
    toNumpyWith sf (encodeDense order a dtype) = .ok a

def witnessA : DArr Int := { shape := [2, 3, 4], flat := (List.range 24).map Int.ofNat }

/-- **dense_roundtrip_counterexample.** Gathering by `arg_order` (`to_numpy` until /repo b82f305) fails the statement:
order (1,2,0) on a 2×3×4 array comes back with shape (3,4,2). -/
theorem dense_roundtrip_counterexample : ¬ Statement_dense_roundtrip .argOrder := by
  intro h
  have := h [1, 2, 0] witnessA "f8" (by decide) (by decide)
  revert this
  decide

/-- **dense_roundtrip_partial.** Outside the excluded region the round trip is the identity, for
every rank, shape, order and content. -/
theorem dense_roundtrip_partial [Inhabited α] (order : List Nat) (a : DArr α) (dtype : String)
    (hp : order.Perm (List.range a.shape.length)) (hlen : a.flat.length = prod a.shape)
    (hex : ¬ ExcludedOrder order a.shape) :
    toNumpy (encodeDense order a dtype) = .ok a :=
  toNumpyWith_encodeDense order a dtype .argOrder hp hlen fun _ => Decidable.not_not.mp hex

/-- **dense_roundtrip_fixed.** With `storage_shape` gathered by `order` (`to_numpy` since /repo b82f305)
the full statement holds. -/
theorem dense_roundtrip_fixed [Inhabited α] (order : List Nat) (a : DArr α) (dtype : String)
    (hp : order.Perm (List.range a.shape.length)) (hlen : a.flat.length = prod a.shape) :
    toNumpyWith .order (encodeDense order a dtype) = .ok a :=
  toNumpyWith_encodeDense order a dtype .order hp hlen nofun

/-- **to_numpy_meaning.** For ANY dense backend array (any constituent array, not only one made by
`encodeDense`), `to_numpy` returns exactly the array the format semantics assigns to it, outside
the excluded region. -/
theorem to_numpy_meaning [Inhabited α] (x : MArr α) (fill : α)
    (hd : x.fmt.isDense = true) (hv : x.fmt.valid = true) (hs : x.shape.length = x.fmt.rank)
    (hlen : x.vals.length = prod x.shape) (hex : ¬ ExcludedOrder x.fmt.order x.shape) :
    toNumpy x = .ok { shape := x.shape, flat := x.dense fill } :=
  toNumpyWith_ok .argOrder x fill hd hv hs hlen fun _ => Decidable.not_not.mp hex

/-- **scipy_roundtrip_id.** `to_scipy(asarray(s))` has the fields of `s` (format kind, shape,
indptr/indices or row/col, data), for CSR, CSC and COO, whatever the contents. -/
theorem scipy_roundtrip_id (s : Scipy α) (m : ScipyMeta) (x : MArr α) (hx : fromScipy s m = .ok x) :
    toScipy x = .ok s := by
  cases s with
  | csx csr shape indptr indices data =>
    obtain ⟨f, rfl, hk, ho⟩ := fromScipy_csx hx
    simp only [toScipy, hk, ho]
    cases csr <;> rfl
  | coo shape row col data =>
    obtain ⟨f, rfl, hk, _⟩ := fromScipy_coo hx
    simp only [toScipy, hk]

/-- the full statement: what the level walk reads from an entry list (the FIRST entry stored for an index — `toDense`,
`from_scipy_meaning`) is what scipy means by it (the SUM of the entries stored for that index) -/
def Statement_scipy_meaning_sum : Prop := ∀ (es : List (Idx × Int)) (i : Idx), lookup es 0 i = sumAt es i

/-- the inputs on which the two meanings differ: an index stored more than once (`has_canonical_format == False` through
duplicate entries) -/
def ExcludedDuplicates (es : List (Idx × Int)) : Prop := ¬ (keysOf es).Nodup
instance (es : List (Idx × Int)) : Decidable (ExcludedDuplicates es) := by unfold ExcludedDuplicates; infer_instance

/-- **scipy_meaning_sum_counterexample.** `_from_scipy` hands duplicate entries to a NonUnique level format unchanged: the
index (0, 1) stored with 1 and with 10 reads 1 under the level semantics and means 11 to scipy. -/
theorem scipy_meaning_sum_counterexample : ¬ Statement_scipy_meaning_sum := by
  intro h
  have := h [([0, 1], 1), ([0, 1], 10)] [0, 1]
  revert this
  decide

/-- **scipy_meaning_sum_partial.** Without duplicate indices (sorted or not, explicit zeros anywhere) the two meanings agree,
for every entry list and every index. -/
theorem scipy_meaning_sum_partial (es : List (Idx × Int)) (hnd : ¬ ExcludedDuplicates es) (i : Idx) :
    lookup es 0 i = sumAt es i := by
  have hnd' : (keysOf es).Nodup := Decidable.not_not.mp hnd
  clear hnd
  induction es with
  | nil => rfl
  | cons e es ih =>
    rw [keysOf, List.map_cons, List.nodup_cons] at hnd'
    rw [lookup_cons, sumAt_cons, ← ih hnd'.2]
    split
    -- the first entry has the index: no later one has, so nothing is added to it
    next h => rw [lookup_of_not_mem (h ▸ hnd'.1), Int.add_zero]
    next => rfl

/-- **from_scipy_meaning_sum.** Whatever `_from_scipy` accepts means, under the level semantics, what scipy means by the input
(`toarray()`: duplicates summed) — provided no index is stored twice. -/
theorem from_scipy_meaning_sum (s : Scipy Int) (m : ScipyMeta) (x : MArr Int)
    (hx : fromScipy s m = .ok x)
    (hwf : ScipyWf s)
    (hnd : ¬ ExcludedDuplicates (s.triples 0)) :
    x.dense 0 = (allIdx s.shape).map (sumAt (s.triples 0)) := by
  rw [from_scipy_meaning s m x 0 hx hwf]
  apply List.map_congr_left
  intro i _
  exact scipy_meaning_sum_partial (s.triples 0) hnd i

/-- **determine_format_wf.** Whenever `_determine_format` returns a format for a non-empty group:
its rank is `out_ndim` (the largest input rank when not given), `order` is a permutation of
`0..rank-1`, the index widths are the maxima of the inputs' widths, the dtype is the requested one,
and the levels are `dense … dense compressed … compressed` with the documented counts
(`union`: as many dense levels as the densest input has, capped by the rank; otherwise as many
sparse levels as the sparsest-level-richest input has, capped). -/
theorem determine_format_wf (g : Format) (gs : List Format) (dtype : String) (union : Bool) (outNdim : Option Nat)
    (f : Format) (h : determineFormat (g :: gs) dtype union outNdim = .ok f) :
    let n := outNdim.getD (maxRank (g :: gs))
    let k := if union then n - min n (maxCount union (g :: gs)) else min n (maxCount union (g :: gs))
    f.rank = n ∧ f.order.Perm (List.range n)
    ∧ f.posWidth = (g :: gs).foldl (fun m x => max m x.posWidth) 0
    ∧ f.crdWidth = (g :: gs).foldl (fun m x => max m x.crdWidth) 0
    ∧ f.dtype = dtype
    ∧ f.levels = List.replicate (n - k) dLevel ++ List.replicate k cLevel := by
  intro n k
  have hlen : (sparseDenseLevels k n).length = n := sparseDenseLevels_length k n (nSparse_le union n _)
  simp only [determineFormat, dfFold_maxCount] at h
  obtain ⟨rfl, hok⟩ := mkFormat_ok h
  exact ⟨hlen, orderOk_perm (hlen ▸ hok), dfFold_pos union (g :: gs) dfInit, dfFold_crd union (g :: gs) dfInit, rfl, rfl⟩

/-- **determine_format_empty.** With no input formats: `out_ndim` (default 0) levels, all dense for
`union`, all compressed otherwise, C order, 64-bit indices. -/
theorem determine_format_empty (dtype : String) (union : Bool) (outNdim : Option Nat) :
    determineFormat [] dtype union outNdim
      = .ok { levels := List.replicate (outNdim.getD 0) (if union then dLevel else cLevel),
              order := List.range (outNdim.getD 0), posWidth := 64, crdWidth := 64, dtype := dtype } := by
  simp only [determineFormat]
  exact mkFormat_of_ok 64 64 dtype (by rw [List.length_replicate]; exact perm_orderOk (List.Perm.refl _))

/-- **determine_format_total.** It always returns a format when every input format is valid and
none has more dimensions than the result (always the case for `add`, and for `reshape` to the same
or a higher rank). -/
theorem determine_format_total (fmts : List Format) (dtype : String) (union : Bool) (outNdim : Option Nat)
    (hv : ∀ g ∈ fmts, g.valid = true ∧ g.rank ≤ outNdim.getD (maxRank fmts)) :
    ∃ f, determineFormat fmts dtype union outNdim = .ok f := by
  cases fmts with
  | nil => exact ⟨_, determine_format_empty dtype union outNdim⟩
  | cons g gs =>
    simp only [determineFormat]
    refine ⟨_, mkFormat_of_ok _ _ dtype ?_⟩
    rw [sparseDenseLevels_length _ _ (nSparse_le union _ _)]
    apply dfOrder_ok
    apply dfFold_order union _ (g :: gs) dfInit hv
    intro o ho
    simp only [dfInit, Option.some.injEq] at ho
    exact ⟨0, Nat.zero_le _, by rw [← ho]; exact List.Perm.refl _⟩

/-- for `add` (`out_ndim=None`) validity of the inputs suffices -/
theorem determine_format_total_add (fmts : List Format) (dtype : String) (union : Bool)
    (hv : ∀ g ∈ fmts, g.valid = true) : ∃ f, determineFormat fmts dtype union none = .ok f :=
  determine_format_total fmts dtype union none (fun g hg => ⟨hv g hg, le_maxRank fmts g hg⟩)

/-- **determine_format_truncation_counterexample.** When the result has FEWER dimensions than an
input, the truncated `order[:out_ndim]` need not be a permutation and the constructor raises
ValueError: a 2-d format with order (1,0) reshaped to 1-d. -/
theorem determine_format_truncation_counterexample :
    determineFormat [{ levels := denseLevels 2, order := [1, 0], posWidth := 64, crdWidth := 64, dtype := "f8" }]
      "f8" false (some 1) = .error .value := by decide

open SparseV.Own

/-- **code_has_every_edge.** The keep-alive edges READ OFF THE SOURCE (`SparseV.Gen.mlirHoldViews`, `mlirHoldInputs`,
`mlirFromArraysOwns`, regenerated from `formats.py` / `_conversions.py` by tools/tables.d/C20.py on every run) are:
`_hold_ref(storage, arr)` for every source array of a non-owning storage, `_hold_ref(view, storage)` for every view of an
OWNING storage AND for every view of a NON-OWNING storage, hung on the array at the bottom of NumPy's base chain
(`mlirHoldOnBaseRoot`: the `while isinstance(arr.base, np.ndarray)` walk), and conversions build non-owning storages.  Every ownership
theorem below is about `Cfg.code`; it goes through this equation, so it stops checking when an edge becomes conditional. -/
theorem code_has_every_edge : Cfg.code = Cfg.full := by decide

/-- the invariants after any history of the code as it is -/
theorem code_invariants (cs : List Cmd) (h : Heap) (hex : ExcludedHistory cs = false)
    (hr : run Cfg.code Heap.empty cs = some h) : WF h ∧ Shape h := by
  rw [code_has_every_edge] at hr
  exact run_inv cs hex ⟨WF.empty, Shape.empty⟩ hr

/-- **reachable_correct.** The one-pass marking the executable model (and the harness comparison)
uses is graph reachability from the program's references. -/
theorem reachable_correct (cs : List Cmd) (h : Heap) (hex : ExcludedHistory cs = false)
    (hr : run Cfg.code Heap.empty cs = some h) (o : Nat) :
    o ∈ reachable h ↔ Reach h o :=
  mem_reachable_iff (code_invariants cs h hex hr).1 o

/-- **reachable_refcount_pos.** Reference counts: an object the program can reach — a backend array, a storage, a view,
an external NumPy array or SciPy matrix given as input or handed back as output — has a positive reference count
(references held by the program + references from objects not yet finalised), so reference counting does not release it. -/
theorem reachable_refcount_pos (cs : List Cmd) (h : Heap) (hex : ExcludedHistory cs = false)
    (hr : run Cfg.code Heap.empty cs = some h) (o : Nat) (ho : Reach h o) : 0 < refcount h o :=
  refcount_pos_of_reach (code_invariants cs h hex hr).1 ho

/-- the full statement: no history at all leaves a reachable object over a released buffer, and no
buffer is released twice -/
def Statement_no_dangling : Prop :=
  ∀ (cs : List Cmd) (h : Heap), run Cfg.code Heap.empty cs = some h → dangling h = [] ∧ h.freed.Nodup

/-- the history of `r = reshape(asarray(a), a.shape)` for 1-d `a`, then `del r`, `del a`, `del x`:
the result's storage releases `a`'s buffer (object 4) while `x` still reads it, and `a` releases it again -/
def aliasWitness : List Cmd :=
  [.newArray 7, .npView 0, .mkStorage [1], .mkArray 2, .drop 1, .drop 2,      -- a, x = asarray(a)
   .opAliased 3, .mkArray 4, .drop 4,                                          -- r = reshape(x, x.shape)
   .drop 5, .finalize 5, .finalize 4]                                          -- del r

/-- **no_dangling_counterexample.** The full statement fails inside the excluded region: an owning result whose fields
are its operand's buffers (what a rank-1 `reshape` returned before it was repaired in /repo); deleting the result releases
the input's buffer while the operand is still reachable (use after free), and deleting the input releases it again
(double free — glibc aborts the process). -/
theorem no_dangling_counterexample : ¬ Statement_no_dangling := by
  intro h
  have key : (run Cfg.code Heap.empty aliasWitness).map (fun h => decide (dangling h = [] ∧ h.freed.Nodup)) = some false := by
    decide
  obtain ⟨h', hr, hd⟩ := Option.map_eq_some_iff.mp key
  exact of_decide_eq_false hd (h aliasWitness h' hr)

/-- the same history continued: the input's own finalisation releases the buffer a second time -/
theorem double_free_counterexample :
    ∃ h, run Cfg.code Heap.empty (aliasWitness ++ [.drop 3, .finalize 3, .finalize 2, .finalize 1, .drop 0, .finalize 0]) = some h
      ∧ ¬ h.freed.Nodup := by
  have key : (run Cfg.code Heap.empty (aliasWitness ++ [.drop 3, .finalize 3, .finalize 2, .finalize 1, .drop 0, .finalize 0])).map
      (fun h => decide h.freed.Nodup) = some false := by
    decide +kernel
  obtain ⟨h, hr, hd⟩ := Option.map_eq_some_iff.mp key
  exact ⟨h, hr, of_decide_eq_false hd⟩

/-- **castview_counterexample.** The base walk of `get_constituent_arrays` is necessary.  For an element type the MLIR runtime
re-views (complex64, complex128, float16) the array handed back is `raw.view(dtype)` and NumPy bases every further view on `raw`.
In the variant WITHOUT the walk (`holdOnBaseRoot := false`: the keep-alive hangs on the re-view, as the code did before /repo
d206752) `castWitness` — `t = to_numpy(add(x, x))`, the temporary dropped — runs to its end: the owning storage is finalised and
releases buffer 0 while `t` (object 4) and the raw array (2) still address it.  For the code as it is (`Cfg.code`, the flag
read off the source) the same history stops at its last command: after everything else the storage is still reachable
(`t` → raw array → storage), there is nothing left to finalise and nothing dangles.  The second and third parts are about the
generated flag: they stop checking when the walk is removed from the source. -/
theorem castview_counterexample :
    (run { Cfg.code with holdOnBaseRoot := false } Heap.empty castWitness).map (fun h => (reachable h, h.freed, dangling h))
      = some ([4, 2], [0], [(4, 0), (2, 0)])
    ∧ (run Cfg.code Heap.empty castWitness.dropLast).map (fun h => (reachable h, h.freed ++ garbage h, dangling h))
      = some ([4, 2, 0], [], [])
    ∧ run Cfg.code Heap.empty castWitness = none := by
  decide

/-- **no_dangling.** (partial: histories without an aliasing result) After ANY history of commands of the code as it is
(`Cfg.code`, read off the source) — the program creating NumPy arrays and SciPy matrices, conversions building NON-OWNING
storages over them (`_hold_ref(storage, arr)`), results of add/reshape/asformat (OWNING storages, `owns_memory=True`),
the views of `get_constituent_arrays` of either kind (`_hold_ref(view, storage)`, for re-viewed element types on the array at
the bottom of the base chain: `rawField` / `castView`), NumPy views of those (`to_numpy`),
SciPy matrices over them (`to_scipy`), further references, dropping references to inputs, arrays and outputs in any
order and finalising unreachable objects one at a time in any order — every buffer addressed by an object that the
program can still reach has not been released. -/
theorem no_dangling (cs : List Cmd) (h : Heap) (hex : ExcludedHistory cs = false)
    (hr : run Cfg.code Heap.empty cs = some h)
    (o : Nat) (ho : Reach h o) (b : Nat) (hb : b ∈ (h.obj o).bufs) : b ∉ h.freed := by
  have hw : WF h := (code_invariants cs h hex hr).1
  obtain ⟨w, hp, hwo⟩ := hw.keeps_owner o b hb
  have hrw : Reach h w := ho.path hp
  intro hf
  obtain ⟨w', hwd, hwo'⟩ := hw.freed_owner b hf
  have : w = w' := hw.own_unique w w' b hwo hwo'
  exact hw.reach_alive w hrw (this ▸ hwd)

/-- the executable form the driver evaluates: the list of (reachable object, released buffer) is empty -/
theorem no_dangling_exec (cs : List Cmd) (h : Heap) (hex : ExcludedHistory cs = false)
    (hr : run Cfg.code Heap.empty cs = some h) : dangling h = [] := by
  have hw : WF h := (code_invariants cs h hex hr).1
  unfold dangling
  rw [List.flatMap_eq_nil_iff]
  intro o ho
  rw [List.map_eq_nil_iff, List.filter_eq_nil_iff]
  intro b hb hc
  exact no_dangling cs h hex hr o ((mem_reachable_iff hw o).mp ho) b hb (List.contains_iff_mem.mp hc)

/-- **view_reaches_allocation.** The invariant behind `no_dangling`, for BOTH kinds of storage.  After any history of the
code as it is, a view `v` (an array of `get_constituent_arrays`, hence also what `to_numpy` / `to_scipy` hand back) that
the program can still reach is a view of a storage `s` which it keeps alive, and for every buffer `b` it addresses:
* if `s` is OWNING (`owns_memory=True`: add / reshape / asformat), `s` itself is the allocation, it has not been finalised
  and `b` has not been released;
* if `s` is NON-OWNING (built from NumPy / SciPy input, user buffers, `copy()`, `asarray(copy=True)`), `s` keeps alive a
  source array `r` it was built from, from which a chain of keep-alive edges leads to the allocation `w` of `b` — an
  EXTERNAL object (a NumPy array that owns its buffer, or an owning storage), different from `s`, not finalised — and `b`
  has not been released, whether or not the program still holds any reference of its own to the sources. -/
theorem view_reaches_allocation (cs : List Cmd) (h : Heap) (hex : ExcludedHistory cs = false)
    (hr : run Cfg.code Heap.empty cs = some h)
    (v : Nat) (hv : (h.obj v).kind = .view) (hlive : Reach h v) (b : Nat) (hb : b ∈ (h.obj v).bufs) :
    ∃ s, (h.obj v).refs = [s] ∧ (h.obj s).kind = .storage ∧ b ∈ (h.obj s).bufs ∧ s ∉ h.dead ∧ b ∉ h.freed ∧
      ((h.obj s).om = true → b ∈ (h.obj s).owns) ∧
      ((h.obj s).om = false → ∃ r ∈ (h.obj s).refs, ∃ w, Path h r w ∧ w ≠ s ∧ b ∈ (h.obj w).owns ∧ w ∉ h.dead ∧
          (((h.obj w).kind = .ndarray ∧ (h.obj w).refs = []) ∨ ((h.obj w).kind = .storage ∧ (h.obj w).om = true))) := by
  obtain ⟨hw, hsh⟩ := code_invariants cs h hex hr
  obtain ⟨s, hrefs, _, hks, hsub⟩ := hsh.view_of v hv
  have hrs : Reach h s := Reach.step hlive (by rw [hrefs]; simp)
  have hbs : b ∈ (h.obj s).bufs := hsub b hb
  refine ⟨s, hrefs, hks, hbs, hw.reach_alive s hrs, no_dangling cs h hex hr v hlive b hb, ?_, ?_⟩
  · intro hom
    rw [hsh.owning s hks hom]; exact hbs
  · intro hom
    obtain ⟨hno, hsrc⟩ := hsh.nonowning s hks hom
    obtain ⟨r, hr', _, hbr⟩ := hsrc b hbs
    obtain ⟨w, hp, hwo⟩ := hw.keeps_owner r b hbr
    have hrw : Reach h w := (Reach.step hrs hr').path hp
    refine ⟨r, hr', w, hp, ?_, hwo, hw.reach_alive w hrw, hsh.owner_kind w b hwo⟩
    intro e
    rw [e, hno] at hwo
    cases hwo

/-- **no_double_free.** No buffer is released twice, and a buffer is released only by the
finalisation of its unique owner. -/
theorem no_double_free (cs : List Cmd) (h : Heap) (hex : ExcludedHistory cs = false)
    (hr : run Cfg.code Heap.empty cs = some h) :
    h.freed.Nodup ∧ ∀ b ∈ h.freed, ∃ w, w ∈ h.dead ∧ b ∈ (h.obj w).owns :=
  let hw := (code_invariants cs h hex hr).1
  ⟨hw.freed_nodup, hw.freed_owner⟩

/-- **no_leak.** Every buffer owned by a finalised object has been released (results of
add/reshape/asformat own their buffers; external NumPy arrays release theirs). -/
theorem no_leak (cs : List Cmd) (h : Heap) (hex : ExcludedHistory cs = false)
    (hr : run Cfg.code Heap.empty cs = some h)
    (w : Nat) (hw : w ∈ h.dead) (b : Nat) (hb : b ∈ (h.obj w).owns) : b ∈ h.freed :=
  (code_invariants cs h hex hr).1.dead_freed w hw b hb

/-- **inputs_not_written.** No command of the library — conversions, operations, views, deletions,
finalisations, in any order and for any `_hold_ref` configuration — changes the contents of a buffer
that existed before it: operations write only into buffers they allocate. -/
theorem inputs_not_written (cfg : Cfg) (cs₁ cs₂ : List Cmd) (h₁ h₂ : Heap)
    (h1 : run cfg Heap.empty cs₁ = some h₁) (h2 : run cfg h₁ cs₂ = some h₂) (b : Nat) (hb : b < h₁.nbuf) :
    h₂.cont[b]? = h₁.cont[b]? := by
  have hl : h₁.cont.length = h₁.nbuf := (run_frame cfg cs₁ (h := Heap.empty) rfl h1).1
  exact (run_frame cfg cs₂ hl h2).2.2 b hb

/-- **hold_ref_needed.** The code's configuration is the ONLY safe one: for every other choice of which `_hold_ref` loops
run (for which kind of storage), of where the keep-alive of a re-viewed array hangs, and of which storage class the conversions build, there is a history with no aliasing
result — an object graph and a deletion order, `edgeWitness` — after which the program still reaches an object over a
released buffer.  In particular every edge the code makes is necessary, for owning AND for non-owning storages. -/
theorem hold_ref_needed (cfg : Cfg) (hne : cfg ≠ Cfg.code) :
    ∃ h, ExcludedHistory (edgeWitness cfg) = false ∧ run cfg Heap.empty (edgeWitness cfg) = some h ∧ dangling h ≠ [] := by
  rw [code_has_every_edge] at hne
  -- finitely many configurations, each with a concrete history: evaluated
  have key : ∀ a b c d e : Bool, (⟨a, b, c, d, e⟩ : Cfg) ≠ Cfg.full →
      ExcludedHistory (edgeWitness ⟨a, b, c, d, e⟩) = false ∧
      ((run ⟨a, b, c, d, e⟩ Heap.empty (edgeWitness ⟨a, b, c, d, e⟩)).map fun h => decide (dangling h ≠ [])) = some true := by
    decide +kernel
  obtain ⟨a, b, c, d, e⟩ := cfg
  obtain ⟨hex, hrun⟩ := key a b c d e hne
  obtain ⟨h, hr, hd⟩ := Option.map_eq_some_iff.mp hrun
  exact ⟨h, hex, hr, of_decide_eq_true hd⟩

/-- **nonowning_view_edge_counterexample.** The variant in which only views of OWNING storages keep their storage alive
(`if owns_memory: for arr in arrays: _hold_ref(arr, self)`): build an array from a NumPy input, take a constituent array,
delete the input and the backend array — the view (object 3) is still reachable and addresses buffer 0, which the
finalisation of the input array has released. -/
theorem nonowning_view_edge_counterexample :
    (run { Cfg.full with holdViewNonOwning := false } Heap.empty
        [.newArray 7, .mkStorage [0], .mkArray 1, .drop 1, .view 2 0, .drop 0, .drop 2, .finalize 2, .finalize 1, .finalize 0]).map
      (fun h => (reachable h, h.freed, dangling h)) = some ([3], [0], [(3, 0)]) := by decide

/-- the CSF example of the backend's own tests decodes to the expected dense array -/
example : toDense { levels := csfLevels 3, order := [0, 1, 2], posWidth := 64, crdWidth := 64, dtype := "f8" }
    [2, 2, 4] [[0, 1, 3], [1, 0, 1], [0, 3, 5, 7], [0, 1, 3, 0, 3, 0, 1]] [1, 2, 3, 4, 5, 6, 7] (0 : Int)
    = [0, 0, 0, 0, 1, 2, 0, 3, 4, 0, 0, 5, 6, 7, 0, 0] := by decide +kernel

/-- hypotheses of `csr_toDense` on a concrete 2×3 matrix -/
example : IndptrOk [0, 2, 3] ∧ [0, 2, 3].length = 2 + 1 ∧
    toDense { levels := csfLevels 2, order := [0, 1], posWidth := 32, crdWidth := 32, dtype := "f8" }
      [2, 3] [[0, 2, 3], [0, 2, 1]] [5, 6, 7] (0 : Int) = [5, 0, 6, 0, 7, 0] := by decide

/-- the COO encoding of a 2×2 entry list with a duplicate index: first stored entry wins, as in `COO.lookup` -/
example : toDense { levels := cooLevels 2, order := [0, 1], posWidth := 64, crdWidth := 64, dtype := "i8" } [2, 2]
    (cooEncode [([0, 1], 5), ([1, 0], 7), ([0, 1], 9)] 2) [5, 7, 9] (0 : Int) = [0, 5, 7, 0] := by decide

/-- a non-involutive order outside the excluded region (all extents equal), and one inside -/
example : ¬ ExcludedOrder [1, 2, 0] [2, 2, 2] ∧ ExcludedOrder [1, 2, 0] [2, 3, 4] ∧ ¬ ExcludedOrder [2, 1, 0] [2, 3, 4] := by
  decide

/-- `determine_format_wf` on CSR + dense: a dense 2-d format with the wider indices -/
example : determineFormat
    [{ levels := csfLevels 2, order := [0, 1], posWidth := 32, crdWidth := 64, dtype := "f8" },
     { levels := denseLevels 2, order := [0, 1], posWidth := 64, crdWidth := 8, dtype := "f8" }] "f8" true none
    = .ok { levels := denseLevels 2, order := [0, 1], posWidth := 64, crdWidth := 64, dtype := "f8" } := by decide

/-- a history in which input, storage, array and a view are created and the input and the array are
deleted: the view still reaches its buffer, which is not released -/
example : (run Cfg.code Heap.empty [.newArray 7, .mkStorage [0], .mkArray 1, .drop 1, .view 2 0, .drop 0, .drop 2, .finalize 2]).map
    (fun h => (reachable h, h.freed, dangling h)) = some ([3, 1, 0], [], []) := by decide

/-- a SciPy round trip with every reference of the program to the sources dropped: the input matrix (object 3, over the
arrays 0-2), `x = asarray(S)` (non-owning storage 4, array 5), `T = to_scipy(x)` (views 6-8, matrix 9), then `del S`,
`del x`: only `T` is held; its arrays still reach the three source buffers (reference counts: source 0 is referenced by the
storage alone, the storage by the three views), nothing has been released and nothing dangles -/
example : (run Cfg.code Heap.empty [.newArray 1, .newArray 2, .newArray 3, .mkScipy [0, 1, 2], .drop 0, .drop 1, .drop 2,
    .mkStorage [0, 1, 2], .mkArray 4, .drop 4, .view 5 0, .view 5 1, .view 5 2, .mkScipy [8, 7, 6], .drop 6, .drop 7, .drop 8,
    .drop 3, .drop 5, .finalize 5, .finalize 3]).map
    (fun h => (reachable h, h.freed ++ garbage h, dangling h, [refcount h 0, refcount h 4]))
    = some ([9, 8, 7, 6, 4, 2, 1, 0], [], [], [1, 3]) := by decide +kernel

/-- with the base walk the two commands for a re-viewed constituent array ARE `view` + `npView`: the same history written with
either pair reaches the same heap, and it is not an excluded history -/
example : ExcludedHistory castWitness = false ∧
    run Cfg.code Heap.empty castWitness.dropLast
      = run Cfg.code Heap.empty [.opStorage [1], .mkArray 0, .drop 0, .view 1 0, .npView 2, .npView 3, .drop 2, .drop 3, .finalize 3,
          .drop 1, .finalize 1] := by
  decide

/-- the hypotheses of `hold_ref_needed` are satisfiable, and its witness for the variant of the seeded kind is the
numpy-input history -/
example : ({ Cfg.full with holdViewNonOwning := false } : Cfg) ≠ Cfg.code ∧
    edgeWitness { Cfg.full with holdViewNonOwning := false }
      = [.newArray 7, .mkStorage [0], .mkArray 1, .drop 1, .view 2 0, .drop 0, .drop 2, .finalize 2, .finalize 1, .finalize 0] := by
  decide

end SparseV.C20
