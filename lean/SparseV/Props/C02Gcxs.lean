/-
  Property C02 — indexing agrees with NumPy: the GCXS (compressed) code path.  Property theorems only.
  Model: `SparseV.Model.GcxsIndex` (`_compressed/indexing.py`, helpers of `_compressed/convert.py`); the two `while`
  loops of `get_slicing_selection` are those of `SparseV.Model.Loops` (whose termination / memory safety are C18's).
  `GCXS.WF`, `GIx.CsrWF` state well-formedness; `Spec.GValid`, `Spec.srcOf`, `Spec.gOutShape` the NumPy side.
-/
import SparseV.Lemmas.GcxsGetitem
import SparseV.Props.C02
namespace SparseV.C02
open SparseV SparseV.Spec SparseV.COO SparseV.GIx

/-- **gcxs_tocoo_get.**  What a well-formed GCXS array means: `tocoo` (uncompress `indptr`, hand `[row, column]`
pairs to the COO constructor, reshape, transpose back) has the array's shape and fill value, well-formed duplicate-free
COO storage, and its value at an in-bounds index `i` is the value stored for column `lin % C` in row `lin / C` of the
CSR triple (`lin` = linear location of `i` after moving the compressed axes first), the fill value when the row has no
such column. -/
theorem gcxs_tocoo_get (g : GCXS Int) (c : List Nat) (hc : g.caxes = some c) (hwf : g.WF) :
    g.tocoo.shape = g.shape ∧ g.tocoo.fill = g.fill ∧ g.tocoo.WF ∧ (keysOf g.tocoo.entries).Nodup ∧
    ∀ i, InB i g.shape → g.tocoo.get i =
      rowGet (csrRow g.indptr g.indices g.data (GCXS.linOf g.shape c i / GCXS.csrC g.shape c)) g.fill
        (GCXS.linOf g.shape c i % GCXS.csrC g.shape c) :=
  GCXS.tocoo_get g c hc hwf

/-- **gcxs_kernels_agree.**  On strictly increasing rows and a strictly increasing, repeat-free list of requested
columns (the `pos_slice` guard), `get_slicing_selection` — whichever of its two `while` loops runs for a row, with the
step budget of C18 — returns exactly what `get_array_selection` returns: the same `ind_list`, `indices`, `indptr`. -/
theorem gcxs_kernels_agree (indices : List Nat) (rows : List (Nat × Nat)) (col : List Nat)
    (hrows : ∀ p ∈ rows, (rowSlice indices p.1 p.2).Pairwise (· < ·)) (hcol : col.Pairwise (· < ·)) :
    slicingSelection indices rows col = .ok (arraySelection indices rows col) := by
  rw [slicingSelection_eq indices rows col hrows hcol, arraySelection_eq indices rows col hrows]

/-- **gcxs_select_get** (the 2-d core).  On a well-formed CSR triple, for requested rows in range (any order, repeats)
and requested columns (any order and repeats on the `get_array_selection` path; strictly increasing when `pos_slice`
sends the call to `get_slicing_selection`), the selection step succeeds and returns a well-formed CSR triple of shape
`len(rows) × len(cols)` (rows sorted, `indptr` monotone from 0 to nnz) whose entry `(r', c')` is the operand's entry
`(rows[r'], cols[c'])`. -/
theorem gcxs_select_get (g : GCXS Int) (R C : Nat) (hwf : CsrWF R C g.indptr g.indices g.data.length)
    (rows cols : List Nat) (hrows : ∀ r ∈ rows, r < R) (posSlice : Bool)
    (hcols : posSlice = true → cols.Pairwise (· < ·)) :
    ∃ s dat, g.select rows cols posSlice = .ok (s, dat) ∧
      CsrWF rows.length cols.length s.indptr s.indices dat.length ∧
      ∀ (d : Int) (r' c' : Nat), r' < rows.length → c' < cols.length →
        rowGet (csrRow s.indptr s.indices dat r') d c' =
          rowGet (csrRow g.indptr g.indices g.data (rows.getD r' 0)) d (cols.getD c' 0) :=
  select_spec g R C hwf rows cols hrows posSlice hcols

/-- **gcxs_flat_spec.**  `convert_to_flat(inds, shape)` lists, in row-major order of the multi-positions, the linear
location in `shape` of the index picked from the per-axis index arrays. -/
theorem gcxs_flat_spec (A : List (List Nat)) (S : List Nat) (h : A.length = S.length) :
    convertToFlat A S = (allIdx (A.map List.length)).map fun p => ravel (pick A p) S :=
  convertToFlat_spec A S h

/-- **gcxs_getitem_get.**  For a well-formed n-d GCXS array (any admissible `compressed_axes`) and a valid normalised key
(integers, slices of any step, 1-d index arrays in any order with repeats; at least one non-integer entry), `getitem`
— full-slice shortcut, else `_getitem`: key reordering, `convert_to_flat`, `pos_slice`, one of the two kernels, the
three post-processing cases — returns an array `r` of the shape NumPy gives with the operand's fill value, and
`(tocoo r).get j = (tocoo g).get (srcOf key j)` for every in-bounds `j`; `srcOf key j` is inside the operand. -/
theorem gcxs_getitem_get (g : GCXS Int) (key : List NIx) (hwf : g.WF) (hv : GValid key g.shape)
    (ho : key.any keyOut = true) :
    ∃ r, g.getitemN key = .ok (.arr r) ∧ r.shape = gOutShape key ∧ r.fill = g.fill ∧
      r.tocoo.shape = gOutShape key ∧ r.tocoo.fill = g.fill ∧
      ∀ j, InB j (gOutShape key) → InB (srcOf key j) g.shape ∧ r.tocoo.get j = g.tocoo.get (srcOf key j) := by
  obtain ⟨r, h1, h2, h3, _, h5, h6, h7⟩ := GCXS.getitemN_spec g key hwf hv ho
  exact ⟨r, h1, h2, h3, h5, h6, h7⟩

/-- **gcxs_getitem_wf.**  Under the same hypotheses the result is again well-formed: `GCXS.WF` (compressed axes
admissible, `indptr` monotone of length rows+1 from 0 to nnz, column numbers in range and strictly increasing within
each row) for a result of rank ≥ 2, `GCXS.WF1` (strictly increasing in-range positions) for a 1-d result. -/
theorem gcxs_getitem_wf (g : GCXS Int) (key : List NIx) (hwf : g.WF) (hv : GValid key g.shape)
    (ho : key.any keyOut = true) :
    ∃ r, g.getitemN key = .ok (.arr r) ∧ (r.WF ∨ r.WF1) := by
  obtain ⟨r, h1, _, _, h4, _⟩ := GCXS.getitemN_spec g key hwf hv ho
  exact ⟨r, h1, h4⟩

/-- **gcxs_getitem_scalar.**  An all-integer valid key returns the scalar stored at those integers
(`get_single_element`: one binary search in the row), the fill value when nothing is stored there. -/
theorem gcxs_getitem_scalar (g : GCXS Int) (key : List NIx) (hwf : g.WF) (hv : GValid key g.shape)
    (ho : key.any keyOut = false) :
    g.getitemCore key = .ok (.scalar (g.tocoo.get (srcOf key []))) ∧ InB (srcOf key []) g.shape :=
  GCXS.getitemCore_scalar g key hwf hv ho

/-- **gcxs_getitem_eq_coo.**  For basic keys (no index arrays) the GCXS path and the COO path of `Props/C02`
(`getitemN_get`) agree element for element: with `x = tocoo g`, both results have shape `outShape key` and
`(tocoo r).get j = r'.get j = x.get (compose key j)`. -/
theorem gcxs_getitem_eq_coo (g : GCXS Int) (key : List NIx) (le : Bool) (hwf : g.WF) (hv : GValid key g.shape)
    (hn : NoArr key) (ho : key.any keyOut = true) :
    ∃ (r : GCXS Int) (r' : COO Int), g.getitemN key = .ok (.arr r) ∧ g.tocoo.getitemN key le = .arr r' ∧
      r.tocoo.shape = r'.shape ∧ r.tocoo.fill = r'.fill ∧
      ∀ j, InB j r'.shape → r.tocoo.get j = r'.get j := by
  obtain ⟨hvi, hsh, hho, hsrc⟩ := GCXS.basic_key_facts key g.shape hv hn
  obtain ⟨c, hc⟩ := GCXS.WF_some hwf
  obtain ⟨t1, t2, t3, t4, _⟩ := GCXS.tocoo_get g c hc hwf
  obtain ⟨r, h1, _, _, h5, h6, h7⟩ := gcxs_getitem_get g key hwf hv ho
  obtain ⟨r', k1, k2, k3, k4⟩ := getitemN_get g.tocoo key le t3 t4 (by rw [t1]; exact hvi) (by rw [hho]; exact ho)
  refine ⟨r, r', h1, k1, by rw [h5, k2, hsh], by rw [h6, k3, t2], fun j hj => ?_⟩
  have hj' : InB j (gOutShape key) := by rw [hsh, ← k2]; exact hj
  rw [(h7 j hj').2, (k4 j hj).2, hsrc j hj']

/-- a 2×3×4 array with `compressed_axes = (0, 2)`: 8 rows (axes 0 and 2), 3 columns (axis 1); five stored elements -/
def gA : GCXS Int :=
  { shape := [2, 3, 4], caxes := some [0, 2], indptr := [0, 1, 1, 3, 3, 3, 4, 4, 5], indices := [1, 0, 2, 1, 0],
    data := [5, 7, 9, 11, 13], fill := 0 }

/-- `gA` is well-formed, the key `[::-1, ::-1, [3, 0, 3]]` (negative steps on a compressed and on the uncompressed
axis, an unsorted index array with a repeat on a compressed axis) is valid, and the model returns the well-formed
2×3×3 array with `compressed_axes = (0, 2)` that the real code returns. -/
example : gA.WF ∧ GValid [.slice 1 (-1) (-1), .slice 2 (-1) (-1), .arr [3, 0, 3]] gA.shape ∧
    ([NIx.slice 1 (-1) (-1), .slice 2 (-1) (-1), .arr [3, 0, 3]].any keyOut = true) ∧
    (match gA.getitemN [.slice 1 (-1) (-1), .slice 2 (-1) (-1), .arr [3, 0, 3]] with
      | .ok (.arr r) => decide (r.shape = [2, 3, 3] ∧ r.caxes = some [0, 2] ∧ r.indptr = [0, 1, 1, 2, 2, 3, 3] ∧
          r.indices = [2, 2, 1] ∧ r.data = [13, 13, 5] ∧ r.WF)
      | _ => false) = true := by decide

/-- … and the theorem then gives its values: `r[t, u, v] = gA[1 - t, 2 - u, [3,0,3][v]]` -/
example : ∃ r, gA.getitemN [.slice 1 (-1) (-1), .slice 2 (-1) (-1), .arr [3, 0, 3]] = .ok (.arr r) ∧
    r.tocoo.get [0, 2, 0] = gA.tocoo.get [1, 0, 3] ∧ r.tocoo.get [1, 1, 1] = gA.tocoo.get [0, 1, 0] := by
  obtain ⟨r, h1, _, _, _, _, h7⟩ :=
    gcxs_getitem_get gA [.slice 1 (-1) (-1), .slice 2 (-1) (-1), .arr [3, 0, 3]] (by decide) (by decide) (by decide)
  refine ⟨r, h1, ?_, ?_⟩
  · exact (h7 [0, 2, 0] (by decide)).2
  · exact (h7 [1, 1, 1] (by decide)).2

/-- the `pos_slice` path on the same array: `gA[:, 1:3, 2]` (only positive steps) goes through `get_slicing_selection` -/
example : GValid [.slice 0 2 1, .slice 1 3 1, .int 2] gA.shape ∧
    (GCXS.keyRowsCols gA.shape [0, 2] [.slice 0 2 1, .slice 1 3 1, .int 2]) = ([2, 6], [1, 2], true) ∧
    (match gA.getitemN [.slice 0 2 1, .slice 1 3 1, .int 2] with
      | .ok (.arr r) => decide (r.shape = [2, 2] ∧ r.caxes = some [0] ∧ r.indptr = [0, 1, 1] ∧ r.indices = [1] ∧ r.data = [9])
      | _ => false) = true := by decide

/-- an all-integer key: `gA[1, 1, 1] = 11` -/
example : GValid [.int 1, .int 1, .int 1] gA.shape ∧
    (match gA.getitemCore [.int 1, .int 1, .int 1] with | .ok (.scalar v) => decide (v = 11) | _ => false) = true := by
  decide

end SparseV.C02
