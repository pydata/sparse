/-
  Property C12 — DOK behaves as a mutable NumPy array under any sequence of assignments.

  `Dok.get d k` is the element of the DOK model at index tuple `k` (stored value, else the fill value);
  the dense side (`Spec.dSetitem`, `Spec.dSetFancy`, `Spec.dSetMask`, `Spec.dStep`, `Spec.dRun`) is NumPy's
  meaning of the same assignments on a function `index tuple → value`.  `Agrees d r s`
  (Lemmas/DokRefine.lean): the model's outcome `r` (array afterwards, exception if any) of an assignment
  on state `d` agrees with NumPy's outcome `s` — if NumPy accepts: no exception, every index tuple reads
  NumPy's value, the state is canonical (`Canon`: distinct in-range keys, no stored fill value), shape and
  fill unchanged; if NumPy raises: an exception of the same class and an unchanged array.
  `WFOp`/`WFSet` is the grammar of the property (non-zero slice steps, values broadcastable to the
  selection, one integer list per axis with a common length, masks of the array's shape).

  The slice bounds of `DOK._setitem` are `Gen.dokSliceBounds`, regenerated from the source on every
  run, and the slice normalisation is composed of the generated `_slicing.py` definitions: editing
  either changes what is proved here.

  History of the library.  Until /repo commits 5f937a6, 51373e1, e3a3b01, 6ad05a9, daad09e the code
  violated the statements below on seven regions (negative step with normalised start 0; tuples of
  integers on 1-d arrays; the empty tuple; un-normalised index-list entries; empty index lists;
  one-element values for index lists; boolean masks).  All seven are repaired: the statements hold for
  the whole grammar and no region is excluded.  The witnesses of the seven defects appear among the
  examples (and in the harness corpus), where they show agreement.
-/
import SparseV.Lemmas.DokRefine
namespace SparseV.C12
open SparseV SparseV.Dok SparseV.Spec
variable {α : Type}

/-- **setScalar_get.** After `d[k] = x` for one element, `k` reads `x` and every other index tuple
reads what it read before — also when `x` is the fill value (the entry is deleted). -/
theorem setScalar_get [DecidableEq α] (d : DOK α) (k j : DKey) (x : α) :
    get (setScalar d k x) j = if j = k then x else get d j :=
  alookup_store d.fill d.entries k j x

/-- **setScalar_canon.** One-element assignment at an in-range key keeps the state canonical: keys
distinct and inside the shape, no stored value equal to the fill value; shape and fill unchanged. -/
theorem setScalar_canon [DecidableEq α] (d : DOK α) (k : DKey) (x : α) (hc : Canon d) (hk : InBI k d.shape) :
    Canon (setScalar d k x) ∧ (setScalar d k x).shape = d.shape ∧ (setScalar d k x).fill = d.fill := by
  refine (agrees_of_reads hc (store_inv (canon_inv hc) k x) (funext fun j => alookup_store d.fill d.entries k j x)
    fun j hne => ?_).2.2
  by_cases hjk : j = k
  · exact hjk ▸ hk
  · exact absurd (if_neg hjk) hne

/-- **nnz_count.** In a canonical state `nnz` is the number of in-range index tuples whose value is
not the fill value. -/
theorem nnz_count [DecidableEq α] (d : DOK α) (hc : Canon d) :
    nnz d = (allKeys d.shape).countP (fun k => decide (get d k ≠ d.fill)) := by
  rw [List.countP_eq_length_filter]
  have hp : (keysOf d.entries).Perm ((allKeys d.shape).filter fun k => decide (get d k ≠ d.fill)) := by
    rw [List.perm_ext_iff_of_nodup (canon_inv hc).1 ((nodup_allKeys _).sublist List.filter_sublist)]
    intro k
    rw [List.mem_filter, mem_allKeys, decide_eq_true_iff, mem_keys_iff (canon_inv hc)]
    exact ⟨fun hne => ⟨inb_of_mem_keys hc ((mem_keys_iff (canon_inv hc) k).mpr hne), hne⟩, fun hh => hh.2⟩
  exact (List.length_map _).symm.trans hp.length_eq

/-- non-vacuity: store, overwrite, delete on a 2×3 array with fill 2 -/
def exD : DOK Int := { shape := [2, 3], entries := [([0, 1], 5), ([1, 2], 7)], fill := 2 }
example : Canon exD ∧ get (setScalar exD [1, 2] 9) [1, 2] = 9 ∧ nnz (setScalar exD [1, 2] 2) = 1
    ∧ get (setScalar exD [1, 2] 2) [1, 2] = 2 ∧ nnz (setScalar exD [1, 0] 4) = 3 := by decide

/-- **setitem_refines_of_bounds.**  For EVERY bounds function that agrees with Python's
`slice.indices` on the slices of the key: `d[key] = value` (key of integers, possibly negative, and
slices of any non-zero step, shorter keys padded; value a scalar or any array broadcastable to the
selection) agrees with NumPy's assignment on the dense array — over exactly the index set Python's
slicing selects, with NumPy's broadcasting — keeps the state canonical, and raises IndexError
without changing anything exactly when NumPy does. -/
theorem setitem_refines_of_bounds [DecidableEq α]
    (bounds : Option Int → Option Int → Option Int → Int → Int × Int × Int)
    (d : DOK α) (key : List KeyPart) (v : Val α) (hc : Canon d) (hwf : WFSet d.shape key v)
    (hpy : PyBounds bounds (padKey key d.shape.length) d.shape) :
    Agrees d (setitemWith bounds d key v) (dSetitem d.shape (get d) key v) := by
  obtain ⟨hk, hfit⟩ := hwf
  have hpad := padKey_stepNonzero key d.shape.length hk
  have hsel := pySels_eq _ d.shape hpad
  unfold dSetitem setitemWith normalizeKey
  by_cases hlen : key.length > d.shape.length
  · simp only [hlen, if_true]
    rfl
  · simp only [hlen, if_false]
    rw [hsel]
    cases hn : normParts (padKey key d.shape.length) d.shape with
    | error e => rfl
    | ok nk =>
      rw [hn] at hsel
      have hbc := hfit _ hsel
      simp only [Except.map, hbc, if_true]
      exact setRec_refines bounds d nk v hc (boundsOKAll_of_pyBounds bounds _ _ nk hpad hn hpy) hbc
        (pySels_inb _ _ _ hpad hsel)

/-- **gen_is_fixed.**  The slice bounds `DOK._setitem` computes — `Gen.dokSliceBounds`, regenerated from
the source on every run — are the reference bounds `dokSliceBoundsFixed` (a missing part is recognised
by `is None`, never by truthiness).  An edit of the bound computation that changes its value for any
input breaks this theorem (as `start = ind.start or self.shape[i] - 1` did until commit 5f937a6). -/
theorem gen_is_fixed : Gen.dokSliceBounds = dokSliceBoundsFixed := by
  funext a b c d
  exact Gen.dokSliceBounds_eq a b c d

/-- **setitem_refines_fixed.**  The reference bounds satisfy the statement for every key in the grammar. -/
theorem setitem_refines_fixed [DecidableEq α] (d : DOK α) (key : List KeyPart) (v : Val α)
    (hc : Canon d) (hwf : WFSet d.shape key v) :
    Agrees d (setitemWith dokSliceBoundsFixed d key v) (dSetitem d.shape (get d) key v) :=
  setitem_refines_of_bounds dokSliceBoundsFixed d key v hc hwf (pyBounds_fixed _ _ (padKey_stepNonzero key _ hwf.1))

/-- **setitem_refines.**  The code as it is (bounds generated from `DOK._setitem`), EVERY key in the
grammar — integers of either sign, slices with any non-zero step and any start/stop, short keys, the
empty tuple — and every scalar or broadcastable array value: `d[key] = value` agrees with NumPy's
assignment (same selected index set, same broadcasting, IndexError exactly when NumPy raises it, state
canonical afterwards).  No excluded region. -/
theorem setitem_refines [DecidableEq α] (d : DOK α) (key : List KeyPart) (v : Val α)
    (hc : Canon d) (hwf : WFSet d.shape key v) :
    Agrees d (setitem d key v) (dSetitem d.shape (get d) key v) := by
  unfold setitem
  rw [gen_is_fixed]
  exact setitem_refines_fixed d key v hc hwf

/-- **dSetSel_scalar.**  What the dense side means for a scalar: exactly the index tuples the key
selects (`posOf … ≠ none`: every integer entry matches, every slice entry lists the component) receive
the value; nothing else changes. -/
theorem dSetSel_scalar (a : Dense α) (sels : List Sel) (x : α) (k : DKey) :
    dSetSel a sels (Val.scalar x) k = if (posOf sels k).isSome then x else a k := by
  unfold dSetSel
  cases posOf sels k with
  | none => rfl
  | some p => rfl

/-- non-vacuity of `setitem_refines`: a negative-step slice with an array value on a 2×3 array, then the same
selection assigned the fill value (everything deleted again); and the former witnesses of the
negative-step defect, `d[0::-1] = 7` and `d[-10:0:-1] = 7` on `DOK((5,))`, now set element 0 only / nothing -/
def exE : DOK Int := { shape := [2, 3], entries := [], fill := 0 }
def exNeg : DOK Int := { shape := [5], entries := [], fill := 0 }
example :
    (setitem exE [.int (-1), .slice none none (some (-2))] ⟨[2], [8, 9]⟩).1.entries = [([1, 2], 8), ([1, 0], 9)]
    ∧ (setitem (setitem exE [.int (-1), .slice none none (some (-2))] ⟨[2], [8, 9]⟩).1
        [.slice none none none, .slice none none none] (Val.scalar 0)).1.entries = []
    ∧ (setitem exNeg [.slice (some 0) none (some (-1))] (Val.scalar 7)).1.entries = [([0], 7)]
    ∧ (setitem exNeg [.slice (some (-10)) (some 0) (some (-1))] (Val.scalar 7)).1.entries = [] := by decide

/-- **fancy_refines.**  One integer list per axis (entries anywhere in `[-dim, dim)`, repeated keys, empty
lists; scalar, `n`-element or one-element value): `d[idx0, idx1, …] = value` agrees with NumPy, and
raises IndexError without changing anything exactly when an entry is out of range. -/
theorem fancy_refines [DecidableEq α] (d : DOK α) (idxs : List (List Int)) (v : Val α) (hc : Canon d)
    (hwf : WFOp d.shape (.fancy idxs v) = true) :
    Agrees d (setFancy d idxs v) (dSetFancy d.shape (get d) idxs v) := by
  simp only [WFOp, valueFits, Bool.and_eq_true, beq_iff_eq, List.all_eq_true, Bool.not_eq_true',
    List.isEmpty_eq_false_iff] at hwf
  obtain ⟨hfits, ⟨⟨hne, hlen⟩, hl⟩, hflat⟩ := hwf
  cases idxs with
  | nil => exact absurd rfl hne
  | cons l ls =>
    rw [List.headD_cons] at hfits hl
    obtain ⟨xs, hlv⟩ := exists_ok_of_toBool hfits
    have hkeys := normLists_keys l.length (l :: ls) d.shape hlen hl
    simp only [setFancy, fancyCheck_cons hlen hl, dSetFancy, List.headD_cons]
    cases hn : normLists (l :: ls) d.shape with
    | error e =>
      rw [hn] at hkeys
      rw [hkeys.1, hkeys.2]
      rfl
    | ok idxs' =>
      rw [hn] at hkeys
      simp only [hkeys.1, hlv]
      exact fancyStore_refines d _ v xs hc hflat ((length_zipKeys idxs' l.length).symm ▸ hlv) hkeys.2

/-- **mask_refines.**  A boolean mask of the array's shape: `d[mask] = value` agrees with NumPy (the True
positions in row-major order receive the scalar, or the values one by one). -/
theorem mask_refines [DecidableEq α] (d : DOK α) (m : List Bool) (v : Val α) (hc : Canon d)
    (hwf : WFOp d.shape (.mask m v) = true) :
    Agrees d (setMask d m v) (dSetMask d.shape (get d) m v) := by
  simp only [WFOp, valueFits, Bool.and_eq_true, beq_iff_eq, Bool.not_eq_true', List.isEmpty_eq_false_iff] at hwf
  obtain ⟨hfits, ⟨hne, hlen⟩, hflat⟩ := hwf
  obtain ⟨xs, hlv⟩ := exists_ok_of_toBool hfits
  have hlen' : ¬ m.length ≠ prod d.shape := fun h => h hlen
  simp only [setMask, hne, hlen', if_false, dSetMask, hlv]
  exact fancyStore_refines d _ v xs hc hflat hlv fun k hk => mem_maskKeys hk

/-- **step_refines.**  One assignment of ANY form in the grammar of the property (`WFOp`): key of integers
and slices (including the empty tuple and tuples of integers on 1-d arrays), one integer list per axis,
boolean mask; scalar or broadcastable array value — agrees with NumPy.  No excluded region. -/
theorem step_refines [DecidableEq α] (d : DOK α) (op : Op α) (hc : Canon d) (hwf : WFOp d.shape op = true) :
    Agrees d (step d op) (dStep d.shape (get d) op) := by
  cases op with
  | mask m v => exact mask_refines d m v hc hwf
  | fancy idxs v => exact fancy_refines d idxs v hc hwf
  | set key v => exact setitem_refines d key v hc (wfSet_of_wfOp hwf)

/-- **dok_history.**  For EVERY finite sequence of assignments in the grammar, starting from any
canonical state: after the whole sequence every index tuple reads what a NumPy array with the same
initial contents holds after the same assignments (an assignment NumPy rejects changes nothing on
either side), and the state is canonical — so every reachable state is. -/
theorem dok_history [DecidableEq α] (ops : List (Op α)) : ∀ (d : DOK α), Canon d →
    (∀ op ∈ ops, WFOp d.shape op = true) →
    (∀ k, get (run d ops) k = dRun d.shape (get d) ops k) ∧ Canon (run d ops) ∧
      (run d ops).shape = d.shape ∧ (run d ops).fill = d.fill := by
  induction ops with
  | nil => intro d hc _; exact ⟨fun _ => rfl, hc, rfl, rfl⟩
  | cons op ops ih =>
    intro d hc hops
    have hstep := step_refines d op hc (hops op List.mem_cons_self)
    simp only [run, dRun]
    unfold Agrees at hstep
    cases hs : dStep d.shape (get d) op with
    | ok a' =>
      rw [hs] at hstep
      obtain ⟨_, hget, hc', hsh, hfi⟩ := hstep
      have := ih (step d op).1 hc' (fun o ho => by rw [hsh]; exact hops o (List.mem_cons_of_mem _ ho))
      rwa [hsh, hfi, funext hget] at this
    | error e =>
      rw [hs] at hstep
      simp only [hstep]
      exact ih d hc (fun o ho => hops o (List.mem_cons_of_mem _ ho))

/-- **nnz_invariant.**  After every such history `nnz` equals the number of elements of the NumPy
array that differ from the fill value: assigning the fill value removes the entry, nothing is ever
stored twice. -/
theorem nnz_invariant [DecidableEq α] (ops : List (Op α)) (d : DOK α) (hc : Canon d)
    (hops : ∀ op ∈ ops, WFOp d.shape op = true) :
    nnz (run d ops) = (allKeys d.shape).countP (fun k => decide (dRun d.shape (get d) ops k ≠ d.fill)) := by
  obtain ⟨hget, hc', hsh, hfi⟩ := dok_history ops d hc hops
  rw [nnz_count _ hc', hsh, hfi]
  congr 1
  funext k
  rw [hget k]

/-- **getitem_after_history.**  After every such history, reading one element `d[i0, i1, …]` (one integer
per axis, negative ones counting from the end) gives what the same read gives on the NumPy array:
IndexError exactly when an integer is outside `[-dim, dim)`, else the array's element. -/
theorem getitem_after_history [DecidableEq α] (ops : List (Op α)) (d : DOK α) (hc : Canon d)
    (hops : ∀ op ∈ ops, WFOp d.shape op = true)
    (key : List Int) (hk : key.length = d.shape.length) :
    getInt (run d ops) key = match normKey key d.shape with
      | some k' => .ok (dRun d.shape (get d) ops k')
      | none => .error .index := by
  obtain ⟨hget, _, hsh, _⟩ := dok_history ops d hc hops
  rw [getInt_spec (run d ops) key (by rw [hsh]; exact hk), hsh]
  cases normKey key d.shape with
  | none => rfl
  | some k' => simp only [hget k']

/-- non-vacuity of `dok_history`: a 3-step history on a 2×3 array — a column, then a reversed row with an array
value that overwrites one element and deletes another (value 0 = fill), then an element deletion -/
def exOps : List (Op Int) :=
  [ .set [.slice none none none, .int 1] (Val.scalar 5),
    .set [.int 0, .slice none none (some (-1))] ⟨[3], [1, 0, 3]⟩,
    .set [.int (-1), .int (-2)] (Val.scalar 0) ]
example : (∀ op ∈ exOps, WFOp exE.shape op = true)
    ∧ (run exE exOps).entries = [([0, 2], 1), ([0, 0], 3)] ∧ Canon exE ∧ nnz (run exE exOps) = 2
    ∧ (getInt (run exE exOps) [-2, -1]).toOption = some 1 ∧ (getInt (run exE exOps) [2, 0]).toOption = none := by decide

/-- the former witnesses of the repaired defects, as one history on `DOK((3,))`: an index list with a
negative entry (stored as key 2), a boolean mask, the empty tuple (assigns everywhere), a one-element
value broadcast over two listed elements, empty index lists (nothing), a tuple of one negative integer,
and a too long tuple (IndexError, nothing changes) -/
def ex3 : DOK Int := { shape := [3], entries := [], fill := 0 }
def exOps3 : List (Op Int) :=
  [ .fancy [[-1]] (Val.scalar 7),
    .mask [true, false, false] (Val.scalar 4),
    .set [] (Val.scalar 2),
    .fancy [[0, -2]] ⟨[1], [5]⟩,
    .fancy [[]] (Val.scalar 9),
    .set [.int (-1)] (Val.scalar 0),
    .set [.int 1, .int 2] (Val.scalar 8) ]
example : (∀ op ∈ exOps3, WFOp ex3.shape op = true)
    ∧ (run ex3 (exOps3.take 2)).entries = [([2], 7), ([0], 4)]
    ∧ (run ex3 (exOps3.take 3)).entries = [([2], 2), ([0], 2), ([1], 2)]
    ∧ (run ex3 exOps3).entries = [([0], 5), ([1], 5)]
    ∧ (step (run ex3 (exOps3.take 6)) (.set [.int 1, .int 2] (Val.scalar 8))).2 = some .index := by decide

end SparseV.C12
