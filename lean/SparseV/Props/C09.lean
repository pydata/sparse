/-
  Property C09 — joining and structural extraction.  Property theorems only.
-/
import SparseV.Lemmas.Join
namespace SparseV.C09
open SparseV SparseV.COO
variable {α : Type}

/-- **triu_get.** `triu(x, k)` keeps exactly the elements with `i + k ≤ j` (last two axes) and is
zero elsewhere, for every rank ≥ 2, every `k`, every pattern. No `Nodup`/order assumption. -/
theorem triu_get (x : COO Int) (k : Int) (j : Idx) :
    (x.triuCore k).get j =
      if (j.getD (x.shape.length - 2) 0 : Int) + k ≤ (j.getD (x.shape.length - 1) 0 : Int)
      then COO.lookup x.entries 0 j else 0 := by
  unfold COO.triuCore COO.get
  have h := lookup_filter
    (fun i => decide ((i.getD (x.shape.length - 2) 0 : Int) + k ≤ (i.getD (x.shape.length - 1) 0 : Int)))
    x.entries 0 j
  simp only [decide_eq_true_eq] at h
  exact h

/-- **tril_get.** -/
theorem tril_get (x : COO Int) (k : Int) (j : Idx) :
    (x.trilCore k).get j =
      if (j.getD (x.shape.length - 2) 0 : Int) + k ≥ (j.getD (x.shape.length - 1) 0 : Int)
      then COO.lookup x.entries 0 j else 0 := by
  unfold COO.trilCore COO.get
  have h := lookup_filter
    (fun i => decide ((i.getD (x.shape.length - 2) 0 : Int) + k ≥ (i.getD (x.shape.length - 1) 0 : Int)))
    x.entries 0 j
  simp only [decide_eq_true_eq] at h
  exact h

/-- `triu`/`tril` promise `sorted=True`: the promise is justified because filtering keeps the
relative order of the stored entries (the result's key list is a sublist of the operand's). -/
theorem triu_keys_sublist (x : COO Int) (k : Int) : (x.triuCore k).keys.Sublist x.keys := by
  unfold COO.triuCore COO.keys
  exact List.Sublist.map _ List.filter_sublist

theorem tril_keys_sublist (x : COO Int) (k : Int) : (x.trilCore k).keys.Sublist x.keys := by
  unfold COO.trilCore COO.keys
  exact List.Sublist.map _ List.filter_sublist

theorem triu_sorted (x : COO Int) (k : Int) (h : x.keys.Pairwise (· < ·)) :
    (x.triuCore k).keys.Pairwise (· < ·) := h.sublist (triu_keys_sublist x k)

/-- non-vacuity -/
example : ((⟨[2, 2], [([0, 0], 1), ([0, 1], 2), ([1, 0], 3), ([1, 1], 4)], 0⟩ : COO Int).triuCore 1).entries
    = [([0, 1], 2)] := by decide

/-- **concat_get.** `concatenate(x0 :: rest, axis)` for ANY number of members (members without stored
entries and members of extent 0 along `axis` included), any rank, any `axis < rank`, both code paths
(`axis = 0`: `sorted=True` promised, no sort; `axis ≠ 0`: the constructor sorts).  Members are
well-formed with distinct stored indices, agree with `x0` off `axis` (`shape.set axis 0` equal) and on
the fill value (what `concatenate` validates).  Then: the result shape is `x0.shape` with extent
`Σ extents` along `axis`, the fill is `x0.fill`, and every in-bounds result index `j` reads member
`k` at `j` with `j[axis] - offset_k`, where `(k, j[axis] - offset_k) = locate extents j[axis]` is the
member whose range `[offset_k, offset_k + extent_k)` contains `j[axis]` (`locate_spec`,
`locate_unique`); that source index is in bounds of member `k`. -/
theorem concat_get (x0 : COO α) (rest : List (COO α)) (axis : Nat)
    (hwf : ∀ y ∈ x0 :: rest, y.WF) (hnd : ∀ y ∈ x0 :: rest, (keysOf y.entries).Nodup)
    (hax : axis < x0.shape.length)
    (hshape : ∀ y ∈ rest, y.shape.set axis 0 = x0.shape.set axis 0)
    (hfill : ∀ y ∈ rest, y.fill = x0.fill) :
    (concatCore x0 rest axis).shape = x0.shape.set axis (exts (x0 :: rest) axis).sum ∧
    (concatCore x0 rest axis).fill = x0.fill ∧
    ∀ j, InB j (x0.shape.set axis (exts (x0 :: rest) axis).sum) →
      (locate (exts (x0 :: rest) axis) (j.getD axis 0)).1 < (x0 :: rest).length ∧
      InB (j.set axis (locate (exts (x0 :: rest) axis) (j.getD axis 0)).2)
        ((x0 :: rest).getD (locate (exts (x0 :: rest) axis) (j.getD axis 0)).1 x0).shape ∧
      (concatCore x0 rest axis).get j =
        ((x0 :: rest).getD (locate (exts (x0 :: rest) axis) (j.getD axis 0)).1 x0).get
          (j.set axis (locate (exts (x0 :: rest) axis) (j.getD axis 0)).2) := by
  have hshape' : ∀ y ∈ x0 :: rest, y.shape.set axis 0 = x0.shape.set axis 0 :=
    List.forall_mem_cons.mpr ⟨rfl, hshape⟩
  have hfill' : ∀ y ∈ x0 :: rest, y.fill = x0.fill := List.forall_mem_cons.mpr ⟨rfl, hfill⟩
  have hrank : ∀ y ∈ x0 :: rest, axis < y.shape.length := fun y hy =>
    length_eq_of_set_eq (hshape' y hy) ▸ hax
  refine ⟨?_, rfl, fun j hj => ?_⟩
  · show x0.shape.set axis (concatCore.go axis (x0 :: rest) 0).2 = _
    rw [concat_go_snd, Nat.zero_add]
  have hjax : j.getD axis 0 < (exts (x0 :: rest) axis).sum := by
    have := InB_getD_lt hj (a := axis) (by rwa [List.length_set])
    rwa [getD_set_eq _ _ _ hax] at this
  have hget : (concatCore x0 rest axis).get j = lookup (concatCore.go axis (x0 :: rest) 0).1 x0.fill j :=
    lookup_sort_unless _ _ _ _ j (concat_go_nodup axis (x0 :: rest) 0 hwf hrank hnd)
  rw [hget, concat_go_lookup axis x0 (x0 :: rest) 0 x0.fill j hwf hrank (Nat.zero_le _) (by omega), Nat.sub_zero]
  obtain ⟨hk, hp, _⟩ := locate_spec _ _ hjax
  generalize locate (exts (x0 :: rest) axis) (j.getD axis 0) = kp at hk hp ⊢
  rw [exts, List.length_map] at hk
  rw [exts, getD_map _ _ _ hk x0 0] at hp
  have hmem := getD_mem (x0 :: rest) kp.1 x0 hk
  generalize (x0 :: rest).getD kp.1 x0 = y at hp hmem ⊢
  refine ⟨hk, ?_, by rw [COO.get, hfill' y hmem]⟩
  -- the source index is inside the member: `y.shape` is `x0.shape` with `axis` extent `y.shape[axis]`
  have := InB_set hj axis hp
  rwa [List.set_set, ← eq_set_of_set_eq (hshape' y hmem)] at this

/-- **concat_axis0_sorted.** For `axis = 0` `concatenate` passes `sorted=True` and the constructor does
not sort.  The promise is justified: if every member's entries are in canonical order (strictly
increasing linear location in the member's own shape), so is the concatenated entry list in the
result shape. -/
theorem concat_axis0_sorted (x0 : COO α) (rest : List (COO α))
    (hwf : ∀ y ∈ x0 :: rest, y.WF) (hax : 0 < x0.shape.length)
    (hshape : ∀ y ∈ rest, y.shape.set 0 0 = x0.shape.set 0 0)
    (hs : ∀ y ∈ x0 :: rest, SortedLin y.shape y.entries) :
    SortedLin (concatCore x0 rest 0).shape (concatCore x0 rest 0).entries := by
  match hx : x0.shape, hax with
  | d0 :: ds, _ =>
    have hshape' : ∀ y ∈ x0 :: rest, y.shape.set 0 0 = x0.shape.set 0 0 :=
      List.forall_mem_cons.mpr ⟨rfl, hshape⟩
    have hsh : ∀ y ∈ x0 :: rest, ∃ dy, y.shape = dy :: ds := by
      intro y hy
      have := eq_set_of_set_eq (hshape' y hy)
      rw [hx] at this
      exact ⟨_, this⟩
    simp only [concatCore, if_true, hx, List.set_cons_zero]
    exact concat_go_sorted0 ds _ (x0 :: rest) 0 hwf hsh hs

/-- **stack_get.** `stack(x0 :: rest, axis)` for any number `m = rest.length + 1` of members of equal
shape and fill, any `axis ≤ rank` (both code paths: `axis = 0` unsorted promise, otherwise sorted):
shape `insertAt x0.shape axis m`, fill `x0.fill`, and element `insertAt i axis k` (member number `k`
inserted at position `axis` of `i`) of the result is element `i` of member `k`.
`stack_index_form` shows every in-bounds result index has this form. -/
theorem stack_get (x0 : COO α) (rest : List (COO α)) (axis : Nat)
    (hwf : ∀ y ∈ x0 :: rest, y.WF) (hnd : ∀ y ∈ x0 :: rest, (keysOf y.entries).Nodup)
    (hax : axis ≤ x0.shape.length)
    (hshape : ∀ y ∈ rest, y.shape = x0.shape)
    (hfill : ∀ y ∈ rest, y.fill = x0.fill) :
    (stackCore x0 rest axis).shape = insertAt x0.shape axis (rest.length + 1) ∧
    (stackCore x0 rest axis).fill = x0.fill ∧
    ∀ (k : Nat) (i : Idx), k < rest.length + 1 → InB i x0.shape →
      InB (insertAt i axis k) (stackCore x0 rest axis).shape ∧
      (stackCore x0 rest axis).get (insertAt i axis k) = ((x0 :: rest).getD k x0).get i := by
  have hshape' : ∀ y ∈ x0 :: rest, y.shape = x0.shape := List.forall_mem_cons.mpr ⟨rfl, hshape⟩
  have hfill' : ∀ y ∈ x0 :: rest, y.fill = x0.fill := List.forall_mem_cons.mpr ⟨rfl, hfill⟩
  have hlen : ∀ y ∈ x0 :: rest, ∀ e ∈ y.entries, axis ≤ e.1.length := by
    intro y hy e he
    rw [InB_length (hwf y hy e he), hshape' y hy]
    exact hax
  refine ⟨rfl, rfl, fun k i hk hi => ⟨(InB_insertAt_j i x0.shape axis k _ hax).mpr ⟨hk, hi⟩, ?_⟩⟩
  rw [COO.get, stackCore_entries, lookup_sort_unless _ _ _ _ _ (stackGo_nodup axis (x0 :: rest) 0 hlen hnd),
    stackGo_lookup axis x0 (x0 :: rest) 0 _ i k hlen (InB_length hi ▸ hax) (Nat.zero_le _)
      (by rw [Nat.zero_add]; exact hk),
    Nat.sub_zero, COO.get, hfill' _ (getD_mem _ k x0 hk)]
  rfl

/-- every in-bounds index of the stacked array is of the form used in `stack_get` -/
theorem stack_index_form (s : List Nat) (axis m : Nat) (hax : axis ≤ s.length) (j : Idx)
    (hj : InB j (insertAt s axis m)) :
    j = insertAt (j.eraseIdx axis) axis (j.getD axis 0) ∧ j.getD axis 0 < m ∧ InB (j.eraseIdx axis) s := by
  have hl : axis < j.length := by
    rw [InB_length hj]; simp [insertAt]; omega
  have h1 := (insertAt_eraseIdx j axis hl).symm
  refine ⟨h1, ?_⟩
  rw [h1] at hj
  exact (InB_insertAt_j _ s axis _ m hax).mp hj

/-- **diagonal_get.** `diagonal(x, offset, axis1, axis2)` for every rank ≥ 2, every offset (positive,
zero, negative, beyond the extent), both orders of the two axes: the result has the other axes in
order followed by an axis of length `max(d - |offset|, 0)`; the fill is unchanged; the in-bounds
result element `j = others ++ [t]` reads the operand element `diagSrc … j`, whose coordinates are
`axis1 ↦ t + max(-offset, 0)`, `axis2 ↦ t + max(offset, 0)`, kept axis number `m` ↦ `j[m]`
(`diagSrc_spec`), and which is in bounds.  The constructor's sort and duplicate-summing passes are
covered (`lookup_build_distinct`: they do nothing to distinct in-bounds keys). -/
theorem diagonal_get [Add α] [DecidableEq α] (x : COO α) (offset : Int) (a1 a2 d : Nat)
    (hwf : x.WF) (hnd : (keysOf x.entries).Nodup) (hne : a1 ≠ a2)
    (h1 : a1 < x.shape.length) (h2 : a2 < x.shape.length)
    (hd1 : x.shape.getD a1 0 = d) (hd2 : x.shape.getD a2 0 = d) :
    (x.diagonalCore offset a1 a2).shape
      = gather x.shape (diagOthers x.shape.length a1 a2) ++ [((d : Int) - (offset.natAbs : Int)).toNat] ∧
    (x.diagonalCore offset a1 a2).fill = x.fill ∧
    ∀ j, InB j (gather x.shape (diagOthers x.shape.length a1 a2) ++ [((d : Int) - (offset.natAbs : Int)).toNat]) →
      InB (diagSrc x.shape.length a1 a2 offset j) x.shape ∧
      (x.diagonalCore offset a1 a2).get j = x.get (diagSrc x.shape.length a1 a2 offset j) := by
  have hpos : x.shape.getD (if offset ≥ 0 then a1 else a2) 0 = d := by
    split
    · exact hd1
    · exact hd2
  rw [diagonalCore_eq, hpos]
  refine ⟨rfl, rfl, fun j hj => ?_⟩
  have hjl : j.length = (diagOthers x.shape.length a1 a2).length + 1 := by
    rw [InB_length hj, List.length_append, length_gather, List.length_singleton]
  refine ⟨InB_diagSrc x.shape a1 a2 d offset j h1 h2 hne hd1 hd2 hj, ?_⟩
  -- on the selected entries `diagSrc` undoes the coordinate selection
  have hinv : ∀ e ∈ x.entries.filter (fun e => decide ((e.1.getD a1 0 : Int) + offset = (e.1.getD a2 0 : Int))),
      diagSrc x.shape.length a1 a2 offset (gather e.1 (diagAxes x.shape.length a1 a2 offset)) = e.1 := by
    intro e he
    obtain ⟨hex, hP⟩ := List.mem_filter.mp he
    exact diagSrc_gather _ _ _ _ _ (InB_length (hwf e hex)) (by simpa using hP)
  rw [lookup_build_distinct]
  · rw [mapIdx_lookup _ _ (gather · (diagAxes x.shape.length a1 a2 offset)) (diagSrc x.shape.length a1 a2 offset) j hinv
        (gather_diagSrc _ _ _ _ j hjl h1 h2 hne),
      lookup_filter (fun i => decide ((i.getD a1 0 : Int) + offset = (i.getD a2 0 : Int))),
      if_pos (by simp only [decide_eq_true_eq]; exact diagSrc_sel _ _ _ offset j h1 h2 hne)]
    rfl
  · exact mapIdx_nodup _ _ _ hinv (List.Nodup.sublist (List.Sublist.map _ List.filter_sublist) hnd)
  · intro e he
    obtain ⟨e0, he0, rfl⟩ := List.mem_map.mp he
    obtain ⟨hex, hP⟩ := List.mem_filter.mp he0
    exact InB_gather_diagAxes x.shape a1 a2 d offset e0.1 (hwf e0 hex) h1 h2 hd1 hd2 (by simpa using hP)

/-- the coordinates of the operand index read by `diagonal` (see `diagonal_get`) -/
theorem diagSrc_spec (n a1 a2 : Nat) (offset : Int) (o : Idx) (t : Nat)
    (ho : o.length = (diagOthers n a1 a2).length) (h1 : a1 < n) (h2 : a2 < n) (hne : a1 ≠ a2) :
    (diagSrc n a1 a2 offset (o ++ [t])).length = n ∧
    (diagSrc n a1 a2 offset (o ++ [t])).getD a1 0 = t + (-offset).toNat ∧
    (diagSrc n a1 a2 offset (o ++ [t])).getD a2 0 = t + offset.toNat ∧
    ∀ k (hk : k < (diagOthers n a1 a2).length),
      (diagSrc n a1 a2 offset (o ++ [t])).getD ((diagOthers n a1 a2)[k]) 0 = o.getD k 0 := by
  have ht : (o ++ [t]).getD (diagOthers n a1 a2).length 0 = t := ho ▸ getD_append_last o t
  refine ⟨diagSrc_length _ _ _ _ _, ?_, ?_, fun k hk => ?_⟩
  · rw [diagSrc_a1 _ _ _ _ _ h1, ht]
  · rw [diagSrc_a2 _ _ _ _ _ h2 hne, ht]
  · rw [diagSrc_other _ _ _ _ _ k hk]
    exact getD_append_left o [t] k (ho ▸ hk)

def cA : COO Int := { shape := [2, 2], entries := [([0, 1], 5), ([1, 0], 7)], fill := 0 }
def cE : COO Int := { shape := [2, 0], entries := [], fill := 0 }
def cB : COO Int := { shape := [2, 3], entries := [([0, 2], 3), ([1, 1], 4)], fill := 0 }

/-- three members along axis 1, the middle one of extent 0: result index `[1, 3]` reads `cB[1, 1]` -/
example : (concatCore cA [cE, cB] 1).shape = [2, 5] ∧ (concatCore cA [cE, cB] 1).get [1, 3] = cB.get [1, 1] :=
  have h := concat_get cA [cE, cB] 1 (by decide) (by decide) (by decide) (by decide) (by decide)
  ⟨h.1, ((h.2.2 [1, 3] (by decide)).2.2)⟩

def cC : COO Int := { shape := [1, 2], entries := [([0, 0], 9)], fill := 0 }

/-- axis 0 (unsorted path) and its order promise -/
example : (concatCore cA [cC] 0).get [2, 0] = cC.get [0, 0] ∧
    SortedLin (concatCore cA [cC] 0).shape (concatCore cA [cC] 0).entries :=
  ⟨((concat_get cA [cC] 0 (by decide) (by decide) (by decide) (by decide) (by decide)).2.2 [2, 0] (by decide)).2.2,
   concat_axis0_sorted cA [cC] (by decide) (by decide) (by decide)
     (by unfold SortedLin; decide)⟩

def cD : COO Int := { shape := [2, 2], entries := [([1, 1], 8)], fill := 0 }

/-- stack along the last position (sorted path): `[1, 1, 1]` is element `[1, 1]` of member 1 -/
example : (stackCore cA [cD] 2).get (insertAt [1, 1] 2 1) = cD.get [1, 1] :=
  ((stack_get cA [cD] 2 (by decide) (by decide) (by decide) (by decide) (by decide)).2.2 1 [1, 1]
    (by decide) (by decide)).2

def cF : COO Int := { shape := [3, 2, 3], entries := [([0, 1, 1], 2), ([2, 0, 1], 6), ([1, 1, 0], 4)], fill := 0 }

/-- diagonal of a 3×2×3 array over axes (2, 0) with offset -1: element `[1, 0]` reads the stored `cF[0, 1, 1]` -/
example : (cF.diagonalCore (-1) 2 0).shape = [2, 2] ∧
    (cF.diagonalCore (-1) 2 0).get [1, 0] = cF.get (diagSrc 3 2 0 (-1) [1, 0]) ∧
    diagSrc 3 2 0 (-1) [1, 0] = [0, 1, 1] :=
  have h := diagonal_get cF (-1) 2 0 3 (by decide) (by decide) (by decide) (by decide) (by decide) rfl rfl
  ⟨h.1, (h.2.2 [1, 0] (by decide)).2, by decide⟩

end SparseV.C09
