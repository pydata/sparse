/-
  Property C09 — joining agrees with NumPy: the GCXS (compressed) code path.  Property theorems only.
  Model: `SparseV.Model.GcxsJoin` (`_compressed/common.py`: `concatenate`, `stack` — every member brought to
  `compressed_axes = (axis,)`, index pointers spliced with running offsets).  The statements are those of `concat_get`
  and `stack_get` (Props/C09) with `tocoo`.
-/
import SparseV.Lemmas.GcxsJoin
import SparseV.Props.C09
namespace SparseV.C09
open SparseV SparseV.COO SparseV.GIx SparseV.GCXS

/-- **gcxs_splice_spec** (the 2-d core).  Members that are well-formed CSR triples with a common number of columns
(`Rf x` rows each): the spliced index pointers (`indptr_0 ++ (indptr_1[1:] + nnz_0) ++ (indptr_2[1:] + nnz_0 + nnz_1) ++ …`)
with the concatenated `indices` / `data` are a well-formed CSR triple with `Σ Rf x` rows — monotone from 0 to the total
nnz, rows sorted — and row `ρ` is row `t` of member `k`, `(k, t) = locate (rows per member) ρ`. -/
theorem gcxs_splice_spec (xs : List (GCXS Int)) (d0 : GCXS Int) (hne : xs ≠ []) (Rf : GCXS Int → Nat) (C : Nat)
    (h : ∀ x ∈ xs, CsrWF (Rf x) C x.indptr x.indices x.data.length) :
    CsrWF (xs.map Rf).sum C (splice (xs.map fun x => (x.indptr, x.indices.length))) (xs.flatMap (·.indices))
      (xs.flatMap (·.data)).length ∧
    ∀ ρ, ρ < (xs.map Rf).sum →
      csrRow (splice (xs.map fun x => (x.indptr, x.indices.length))) (xs.flatMap (·.indices)) (xs.flatMap (·.data)) ρ
        = csrRow ((xs.getD (locate (xs.map Rf) ρ).1 d0).indptr) ((xs.getD (locate (xs.map Rf) ρ).1 d0).indices)
            ((xs.getD (locate (xs.map Rf) ρ).1 d0).data) (locate (xs.map Rf) ρ).2 :=
  joinRows_csr xs d0 hne Rf C h

/-- **gcxs_concat_wf.**  `concatenate` of well-formed n-d GCXS members (any compressed axes each) that agree off `axis`
and on the fill value is well-formed, with `compressed_axes = (axis,)`. -/
theorem gcxs_concat_wf (x0 : GCXS Int) (rest : List (GCXS Int)) (axis : Nat)
    (hwf : ∀ y ∈ x0 :: rest, y.WF) (hax : axis < x0.shape.length)
    (hshape : ∀ y ∈ rest, y.shape.set axis 0 = x0.shape.set axis 0)
    (hfill : ∀ y ∈ rest, y.fill = x0.fill) :
    (concatG x0 rest axis).WF ∧ (concatG x0 rest axis).caxes = some [axis] :=
  ⟨(concatG_spec x0 rest axis hwf hax hshape hfill).1, rfl⟩

/-- **gcxs_concat_get.**  Under the same hypotheses the result has `x0`'s shape with `Σ extents` along `axis`, `x0`'s fill
value, and every in-bounds result index `j` reads member `k` at `j` with `j[axis] - offset_k`, where
`(k, j[axis] - offset_k) = locate extents j[axis]` (`locate_spec`, `locate_unique`); that source index is in bounds of
member `k`.  Any number of members, members without stored elements and of extent 0 along `axis` included. -/
theorem gcxs_concat_get (x0 : GCXS Int) (rest : List (GCXS Int)) (axis : Nat)
    (hwf : ∀ y ∈ x0 :: rest, y.WF) (hax : axis < x0.shape.length)
    (hshape : ∀ y ∈ rest, y.shape.set axis 0 = x0.shape.set axis 0)
    (hfill : ∀ y ∈ rest, y.fill = x0.fill) :
    (concatG x0 rest axis).tocoo.shape = x0.shape.set axis ((x0 :: rest).map fun y => y.shape.getD axis 0).sum ∧
    (concatG x0 rest axis).tocoo.fill = x0.fill ∧
    ∀ j, InB j (x0.shape.set axis ((x0 :: rest).map fun y => y.shape.getD axis 0).sum) →
      (locate ((x0 :: rest).map fun y => y.shape.getD axis 0) (j.getD axis 0)).1 < (x0 :: rest).length ∧
      InB (j.set axis (locate ((x0 :: rest).map fun y => y.shape.getD axis 0) (j.getD axis 0)).2)
        ((x0 :: rest).getD (locate ((x0 :: rest).map fun y => y.shape.getD axis 0) (j.getD axis 0)).1 x0).shape ∧
      (concatG x0 rest axis).tocoo.get j =
        ((x0 :: rest).getD (locate ((x0 :: rest).map fun y => y.shape.getD axis 0) (j.getD axis 0)).1 x0).tocoo.get
          (j.set axis (locate ((x0 :: rest).map fun y => y.shape.getD axis 0) (j.getD axis 0)).2) :=
  (concatG_spec x0 rest axis hwf hax hshape hfill).2

/-- **gcxs_stack_get.**  `stack` of well-formed GCXS members of equal shape (rank ≥ 2) and fill: well-formed result of
shape `insertAt x0.shape axis m`, and element `insertAt i axis k` of the result is element `i` of member `k`. -/
theorem gcxs_stack_get (x0 : GCXS Int) (rest : List (GCXS Int)) (axis : Nat)
    (hwf : ∀ y ∈ x0 :: rest, y.WF) (hax : axis ≤ x0.shape.length)
    (hshape : ∀ y ∈ rest, y.shape = x0.shape) (hfill : ∀ y ∈ rest, y.fill = x0.fill) :
    (stackG x0 rest axis).WF ∧
    (stackG x0 rest axis).tocoo.shape = insertAt x0.shape axis (rest.length + 1) ∧
    (stackG x0 rest axis).tocoo.fill = x0.fill ∧
    ∀ (k : Nat) (i : Idx), k < rest.length + 1 → InB i x0.shape →
      InB (insertAt i axis k) (insertAt x0.shape axis (rest.length + 1)) ∧
      (stackG x0 rest axis).tocoo.get (insertAt i axis k) = ((x0 :: rest).getD k x0).tocoo.get i := by
  have hshape' : ∀ y ∈ x0 :: rest, y.shape = x0.shape := List.forall_mem_cons.mpr ⟨rfl, hshape⟩
  have hfill' : ∀ y ∈ x0 :: rest, y.fill = x0.fill := List.forall_mem_cons.mpr ⟨rfl, hfill⟩
  have hx0 : x0 ∈ x0 :: rest := List.mem_cons_self
  have hrank : 2 ≤ x0.shape.length := WF_rank (hwf x0 hx0)
  have hlenR := length_insertAt x0.shape axis 1
  have hR : ∀ y ∈ x0 :: rest,
      (y.reshapeG (insertAt y.shape axis 1)).WF ∧ (y.reshapeG (insertAt y.shape axis 1)).shape = insertAt x0.shape axis 1 ∧
      (y.reshapeG (insertAt y.shape axis 1)).fill = x0.fill ∧
      ∀ i, InB i x0.shape → (y.reshapeG (insertAt y.shape axis 1)).tocoo.get (insertAt i axis 0) = y.tocoo.get i := by
    intro y hy
    rw [hshape' y hy]
    obtain ⟨r1, r2, r3, _, _, r6⟩ := reshapeG_spec y (Or.inl (hwf y hy)) (insertAt x0.shape axis 1)
      (by rw [hlenR]; omega) (by rw [hshape' y hy]; exact (prod_insertAt_one axis x0.shape).symm)
    refine ⟨?_, r2, by rw [r3, hfill' y hy], fun i hi => ?_⟩
    · rcases r1 with h | h
      · exact h
      · have := h.2.1
        rw [r2, hlenR] at this
        omega
    · rw [r6 _ ((InB_insertAt_j i x0.shape axis 0 1 hax).mpr ⟨by omega, hi⟩), hshape' y hy,
        ravel_insertAt_zero axis i x0.shape (InB_length hi) hax, unravel_ravel hi]
  have hmemR : ∀ y' ∈ x0.reshapeG (insertAt x0.shape axis 1) :: rest.map (fun y => y.reshapeG (insertAt y.shape axis 1)),
      ∃ y ∈ x0 :: rest, y.reshapeG (insertAt y.shape axis 1) = y' := fun y' hy' =>
    List.mem_map.mp (show y' ∈ (x0 :: rest).map fun y => y.reshapeG (insertAt y.shape axis 1) from hy')
  have hexts : ((x0.reshapeG (insertAt x0.shape axis 1) :: rest.map fun y => y.reshapeG (insertAt y.shape axis 1)).map
      fun y => y.shape.getD axis 0) = List.replicate (rest.length + 1) 1 := by
    rw [List.eq_replicate_iff]
    refine ⟨by simp, fun b hb => ?_⟩
    obtain ⟨y', hy', rfl⟩ := List.mem_map.mp hb
    obtain ⟨y, hy, rfl⟩ := hmemR y' hy'
    rw [(hR y hy).2.1]
    exact getD_insertAt_self _ _ _ hax
  -- `stack` is `concatenate` of the reshaped members
  have hstack : stackG x0 rest axis
      = concatG (x0.reshapeG (insertAt x0.shape axis 1)) (rest.map fun y => y.reshapeG (insertAt y.shape axis 1)) axis := by
    unfold stackG concatG
    simp only []
    rw [hexts, (hR x0 hx0).2.1, (hR x0 hx0).2.2.1, set_insertAt _ _ _ _ hax, List.sum_replicate_nat, Nat.mul_one,
      List.map_cons, List.map_cons, List.map_map, List.length_cons]
    rfl
  rw [hstack]
  obtain ⟨c1, c2, c3, c4⟩ := concatG_spec (x0.reshapeG (insertAt x0.shape axis 1))
    (rest.map fun y => y.reshapeG (insertAt y.shape axis 1)) axis
    (fun y' hy' => by obtain ⟨y, hy, rfl⟩ := hmemR y' hy'; exact (hR y hy).1)
    (by rw [(hR x0 hx0).2.1, hlenR]; omega)
    (fun y' hy' => by
      obtain ⟨y, hy, rfl⟩ := hmemR y' (List.mem_cons_of_mem _ hy')
      rw [(hR y hy).2.1, (hR x0 hx0).2.1])
    (fun y' hy' => by
      obtain ⟨y, hy, rfl⟩ := hmemR y' (List.mem_cons_of_mem _ hy')
      rw [(hR y hy).2.2.1, (hR x0 hx0).2.2.1])
  rw [hexts, List.sum_replicate_nat, Nat.mul_one, (hR x0 hx0).2.1, set_insertAt _ _ _ _ hax] at c2 c4
  refine ⟨c1, c2, by rw [c3, (hR x0 hx0).2.2.1], fun k i hk hi => ?_⟩
  have hin : InB (insertAt i axis k) (insertAt x0.shape axis (rest.length + 1)) :=
    (InB_insertAt_j i x0.shape axis k _ hax).mpr ⟨hk, hi⟩
  have hil : axis ≤ i.length := by rw [InB_length hi]; exact hax
  refine ⟨hin, ?_⟩
  rw [(c4 _ hin).2.2, getD_insertAt_self _ _ _ hil, locate_ones _ _ hk, set_insertAt _ _ _ _ hil]
  show (((x0 :: rest).map fun (y : GCXS Int) => y.reshapeG (insertAt y.shape axis 1)).getD k _).tocoo.get _ = _
  rw [getD_map _ _ k (by simpa using hk) x0]
  exact (hR _ (getD_mem _ k x0 (by simpa using hk))).2.2.2 i hi

/-- two CSR members of two columns: 2 rows / 1 row -/
def jA : GCXS Int := { shape := [2, 2], caxes := some [0], indptr := [0, 1, 3], indices := [1, 0, 1], data := [5, 7, 9], fill := 0 }
def jB : GCXS Int := { shape := [1, 2], caxes := some [0], indptr := [0, 1], indices := [0], data := [4], fill := 0 }

/-- the hypotheses of `gcxs_concat_get` hold for `concatenate([jA, jB], axis=0)`; the splice gives `[0, 1, 3, 4]` -/
example : (∀ y ∈ [jA, jB], y.WF) ∧ 0 < jA.shape.length ∧ (∀ y ∈ [jB], y.shape.set 0 0 = jA.shape.set 0 0) ∧
    (∀ y ∈ [jB], y.fill = jA.fill) ∧
    splice [(jA.indptr, jA.indices.length), (jB.indptr, jB.indices.length)] = [0, 1, 3, 4] ∧
    locate [2, 1] 2 = (1, 0) := by decide

/-- … and the theorem gives `result[2, 0] = jB[0, 0]` (row 2 is row 0 of the second member) -/
example : (concatG jA [jB] 0).tocoo.get [2, 0] = jB.tocoo.get [0, 0] := by
  obtain ⟨_, _, h⟩ := gcxs_concat_get jA [jB] 0 (by decide) (by decide) (by decide) (by decide)
  exact (h [2, 0] (by decide)).2.2

end SparseV.C09
