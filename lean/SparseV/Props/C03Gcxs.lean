/-
  Property C03 — reductions agree with NumPy: the GCXS (compressed) code path.  Property theorems only.
  Model: `SparseV.Model.GcxsReduce` (`change_compressed_axes` / `_transpose`, `_reduce_calc`, the fill correction of
  `SparseArray.reduce` with the count of missing elements per row, `_reduce_return`, `reshape`).
  The statements have the right-hand sides of `Props/C03` (`reduce_add_get`, `reduce_max_get`, `reduce_min_get`) with
  `x := tocoo g`; the reduced axes are enumerated in increasing order (`restAxes`), which is the order the code uses
  whatever order the caller wrote them in.
-/
import SparseV.Lemmas.GcxsReduce
import SparseV.Props.C03
namespace SparseV.C03
open SparseV SparseV.COO SparseV.GIx SparseV.GCXS

/-- **gcxs_from_coo_wf.**  `_from_coo`'s kernel (linearise under the axis order, stable sort, `bincount`/`cumsum`) returns
a well-formed GCXS array for well-formed duplicate-free COO input and admissible compressed axes: `indptr` monotone from
0 to nnz of length rows+1, column numbers in range and strictly increasing within each row. -/
theorem gcxs_from_coo_wf (x : COO Int) (c : List Nat) (hwf : x.WF) (hnd : (keysOf x.entries).Nodup)
    (hc : CaxesOk c x.shape.length) : (GCXS.fromCooCore x c).WF :=
  (fromCooCore_spec x c hwf hnd hc).1

/-- **gcxs_change_caxes_get.**  `change_compressed_axes` (the `_transpose` kernel without transposition) keeps the array:
well-formed result with the requested compressed axes, same shape and fill value, same value at every index. -/
theorem gcxs_change_caxes_get (g : GCXS Int) (c : List Nat) (hc : g.caxes = some c) (hwf : g.WF) (newc : List Nat)
    (hn : CaxesOk newc g.shape.length) :
    (g.changeCaxes newc).WF ∧ (g.changeCaxes newc).caxes = some newc ∧ (g.changeCaxes newc).shape = g.shape ∧
    (g.changeCaxes newc).fill = g.fill ∧ ∀ i, InB i g.shape → (g.changeCaxes newc).tocoo.get i = g.tocoo.get i :=
  changeCaxes_spec g c hc hwf newc hn

/-- **gcxs_reshape_get.**  `reshape` of a well-formed 1-d or n-d GCXS array to a shape of rank ≥ 2 and equal size
(`_1d_reshape` / `_transpose`): well-formed result of the new shape and old fill value; element `j` is the old element at
the same row-major linear location. -/
theorem gcxs_reshape_get (g : GCXS Int) (hwf : g.WF ∨ g.WF1) (shape : List Nat) (hrank : 2 ≤ shape.length)
    (hsize : prod g.shape = prod shape) :
    ((g.reshapeG shape).WF ∨ (g.reshapeG shape).WF1) ∧ (g.reshapeG shape).tocoo.shape = shape ∧
    (g.reshapeG shape).tocoo.fill = g.fill ∧
    ∀ j, InB j shape → (g.reshapeG shape).tocoo.get j = g.tocoo.get (unravel (ravel j shape) g.shape) := by
  obtain ⟨h1, _, _, h4, h5, h6⟩ := reshapeG_spec g hwf shape hrank hsize
  exact ⟨h1, h4, h5, h6⟩

/-- **gcxs_reduce_rows_spec.**  `_reduce_calc` on a well-formed CSR triple: the rows that store something, the
`ufunc.reduceat` values over `indptr` and the counts `indptr[1:] - indptr[:-1]` are the runs of the COO model
(`groupRuns` over the flat (row, value) list): every stored row once, in increasing order, with the left fold of its
values and their number (`groupRuns_spec`). -/
theorem gcxs_reduce_rows_spec (op : Int → Int → Int) (R C : Nat) (indptr indices : List Nat) (data : List Int)
    (h : CsrWF R C indptr indices data.length) :
    reduceRows op indptr data R = groupRuns op (rowList (csrEntries indptr indices data)) :=
  reduceRows_eq_groupRuns op R C indptr indices data h

theorem gcxs_reduced_axes_sorted (n : Nat) (axes : List Nat) (hp : axes.Pairwise (· < ·)) (hr : ∀ a ∈ axes, a < n) :
    restAxes n ((List.range n).filter fun a => !axes.contains a) = axes := by
  apply eq_of_sorted_mem _ _ (List.pairwise_lt_range.sublist List.filter_sublist) hp
  intro x
  exact (mem_rest_kept n axes x).trans ⟨fun h => h.2, fun h => ⟨hr x h, h⟩⟩

/-- **gcxs_reduce_add_get** (`sum` over a non-empty proper subset of the axes, `keepdims=False`, GCXS route).  For a
well-formed `g`: the result `out` is well-formed, has the kept extents as shape, fill `g.fill * (number of reduced
cells)`, and `out[j] = Σ_{r ∈ allIdx (reduced extents)} g[kept coordinates j, reduced coordinates r]` — the right-hand side
of `reduce_add_get` with `x = tocoo g`.  Covers `change_compressed_axes`, `reduceat` over `indptr`, the count of missing
(fill) elements per row, pruning of fill-valued results, and the reshape of `_reduce_return`. -/
theorem gcxs_reduce_add_get (g : GCXS Int) (hwf : g.WF) (axes : List Nat)
    (hne : ∃ a ∈ axes, a < g.shape.length)
    (hk : (List.range g.shape.length).filter (fun a => !axes.contains a) ≠ []) :
    ∃ out : GCXS Int,
      g.reduceMain .add axes false = .ok (.arr out) ∧ (out.WF ∨ out.WF1) ∧
      out.tocoo.shape = gather g.shape ((List.range g.shape.length).filter fun a => !axes.contains a) ∧
      out.tocoo.fill = g.fill *
        (prod (gather g.shape (restAxes g.shape.length ((List.range g.shape.length).filter fun a => !axes.contains a))) : Int) ∧
      ∀ j, InB j (gather g.shape ((List.range g.shape.length).filter fun a => !axes.contains a)) →
        out.tocoo.get j =
          ((allIdx (gather g.shape (restAxes g.shape.length ((List.range g.shape.length).filter fun a => !axes.contains a)))).map
            fun r => g.tocoo.get (gather (j ++ r)
              (invPerm (((List.range g.shape.length).filter fun a => !axes.contains a) ++
                restAxes g.shape.length ((List.range g.shape.length).filter fun a => !axes.contains a))))).sum := by
  obtain ⟨out, a, h1, h2, h3, h4, h5, h6, h7, h8, h9, h10⟩ :=
    reduceMain_lift .add g hwf axes (by simp [RedOp.super?]) (by simp [RedOp.super?]) _ rfl (kept_ok _ axes hne hk)
  obtain ⟨_, hRf, hRget⟩ := rowReduce_add_get a _ _ h5 h6 h7
  rw [h8] at hRf hRget
  refine ⟨out, h1, h2, h3, by rw [h4, hRf], fun j hj => ?_⟩
  rw [h9 j hj, hRget, ← allIdx_ravel, List.map_map]
  congr 1
  apply List.map_congr_left
  intro r hr
  exact h10 j r hj (mem_allIdx.mp hr)

/-- the selecting reductions (max, min) through the GCXS route: the result bounds every cell of the fibre and is attained -/
theorem gcxs_reduce_sel_get (op : RedOp) (hsup : op.super? = none) (le : Int → Int → Prop)
    (hsel : ∀ a b, op.ap a b = a ∨ op.ap a b = b) (hl : ∀ a b, le a (op.ap a b)) (hr' : ∀ a b, le b (op.ap a b))
    (htrans : ∀ a b c, le a b → le b c → le a c) (hrefl : ∀ a, le a a) (hidem : ∀ a, op.ap a a = a)
    (g : GCXS Int) (hwf : g.WF) (axes : List Nat)
    (hne : ∃ a ∈ axes, a < g.shape.length)
    (kept : List Nat) (hkept : kept = (List.range g.shape.length).filter fun a => !axes.contains a) (hk : kept ≠ [])
    (hpos : axes.any (fun a => g.shape.getD a 0 == 0) = false) :
    ∃ out : GCXS Int,
      g.reduceMain op axes false = .ok (.arr out) ∧ (out.WF ∨ out.WF1) ∧
      out.tocoo.shape = gather g.shape kept ∧ out.tocoo.fill = g.fill ∧
      ∀ j, InB j (gather g.shape kept) →
        (∀ r ∈ allIdx (gather g.shape (restAxes g.shape.length kept)),
          le (g.tocoo.get (gather (j ++ r) (invPerm (kept ++ restAxes g.shape.length kept)))) (out.tocoo.get j)) ∧
        ∃ r ∈ allIdx (gather g.shape (restAxes g.shape.length kept)),
          g.tocoo.get (gather (j ++ r) (invPerm (kept ++ restAxes g.shape.length kept))) = out.tocoo.get j := by
  subst hkept
  obtain ⟨out, a, h1, h2, h3, h4, h5, h6, h7, h8, h9, h10⟩ :=
    reduceMain_lift op g hwf axes (by simp [hidem]) (fun h => by rw [hpos] at h; exact absurd h.2 (by simp)) _ rfl
      (kept_ok _ axes hne hk)
  -- no reduced extent is 0: the reduced axes (increasing order) are among the caller's axes
  have hC : 0 < prod (gather g.shape (restAxes g.shape.length ((List.range g.shape.length).filter fun a => !axes.contains a))) := by
    apply (prod_gather_pos_iff _ _).mpr
    rw [List.any_eq_false] at hpos ⊢
    exact fun x hx => hpos x ((mem_rest_kept _ _ x).mp hx).2
  obtain ⟨_, hRf, hRget⟩ := rowReduce_sel_get op hsup le hsel hl hr' htrans hrefl a _ _ h5 h6 h7 hC
  rw [h8] at hRf hRget
  refine ⟨out, h1, h2, h3, by rw [h4, hRf], fun j hj => ?_⟩
  obtain ⟨hb, c, hc, hatt⟩ := hRget (ravel j (gather g.shape ((List.range g.shape.length).filter fun a => !axes.contains a)))
  rw [h9 j hj]
  constructor
  · intro r hr
    have hrin := mem_allIdx.mp hr
    rw [← h10 j r hj hrin]
    exact hb _ (ravel_lt hrin)
  · refine ⟨unravel c _, mem_allIdx.mpr (unravel_InB _ _ hc), ?_⟩
    rw [← h10 j _ hj (unravel_InB _ _ hc), ravel_unravel _ _ hc]
    exact hatt

/-- **gcxs_reduce_max_get** (`max` over a non-empty proper subset of the axes none of which has extent 0, GCXS route):
fill unchanged, element `j` is the maximum over the fibre — the right-hand side of `reduce_max_get` with `x = tocoo g`. -/
theorem gcxs_reduce_max_get (g : GCXS Int) (hwf : g.WF) (axes : List Nat)
    (hne : ∃ a ∈ axes, a < g.shape.length)
    (hk : (List.range g.shape.length).filter (fun a => !axes.contains a) ≠ [])
    (hpos : axes.any (fun a => g.shape.getD a 0 == 0) = false) :
    ∃ out : GCXS Int,
      g.reduceMain .max axes false = .ok (.arr out) ∧ (out.WF ∨ out.WF1) ∧
      out.tocoo.shape = gather g.shape ((List.range g.shape.length).filter fun a => !axes.contains a) ∧
      out.tocoo.fill = g.fill ∧
      ∀ j, InB j (gather g.shape ((List.range g.shape.length).filter fun a => !axes.contains a)) →
        (∀ r ∈ allIdx (gather g.shape (restAxes g.shape.length ((List.range g.shape.length).filter fun a => !axes.contains a))),
          g.tocoo.get (gather (j ++ r)
            (invPerm (((List.range g.shape.length).filter fun a => !axes.contains a) ++
              restAxes g.shape.length ((List.range g.shape.length).filter fun a => !axes.contains a)))) ≤ out.tocoo.get j) ∧
        ∃ r ∈ allIdx (gather g.shape (restAxes g.shape.length ((List.range g.shape.length).filter fun a => !axes.contains a))),
          g.tocoo.get (gather (j ++ r)
            (invPerm (((List.range g.shape.length).filter fun a => !axes.contains a) ++
              restAxes g.shape.length ((List.range g.shape.length).filter fun a => !axes.contains a)))) = out.tocoo.get j :=
  gcxs_reduce_sel_get .max rfl (· ≤ ·)
    (fun a b => by simp only [RedOp.ap]; omega) (fun a b => by simp only [RedOp.ap]; omega)
    (fun a b => by simp only [RedOp.ap]; omega) (fun a b c h1 h2 => Int.le_trans h1 h2) Int.le_refl
    (fun a => by simp only [RedOp.ap]; omega) g hwf axes hne _ rfl hk hpos

/-- **gcxs_reduce_min_get**: likewise the minimum. -/
theorem gcxs_reduce_min_get (g : GCXS Int) (hwf : g.WF) (axes : List Nat)
    (hne : ∃ a ∈ axes, a < g.shape.length)
    (hk : (List.range g.shape.length).filter (fun a => !axes.contains a) ≠ [])
    (hpos : axes.any (fun a => g.shape.getD a 0 == 0) = false) :
    ∃ out : GCXS Int,
      g.reduceMain .min axes false = .ok (.arr out) ∧ (out.WF ∨ out.WF1) ∧
      out.tocoo.shape = gather g.shape ((List.range g.shape.length).filter fun a => !axes.contains a) ∧
      out.tocoo.fill = g.fill ∧
      ∀ j, InB j (gather g.shape ((List.range g.shape.length).filter fun a => !axes.contains a)) →
        (∀ r ∈ allIdx (gather g.shape (restAxes g.shape.length ((List.range g.shape.length).filter fun a => !axes.contains a))),
          out.tocoo.get j ≤ g.tocoo.get (gather (j ++ r)
            (invPerm (((List.range g.shape.length).filter fun a => !axes.contains a) ++
              restAxes g.shape.length ((List.range g.shape.length).filter fun a => !axes.contains a))))) ∧
        ∃ r ∈ allIdx (gather g.shape (restAxes g.shape.length ((List.range g.shape.length).filter fun a => !axes.contains a))),
          g.tocoo.get (gather (j ++ r)
            (invPerm (((List.range g.shape.length).filter fun a => !axes.contains a) ++
              restAxes g.shape.length ((List.range g.shape.length).filter fun a => !axes.contains a)))) = out.tocoo.get j :=
  gcxs_reduce_sel_get .min rfl (· ≥ ·)
    (fun a b => by simp only [RedOp.ap]; omega) (fun a b => by simp only [RedOp.ap]; omega)
    (fun a b => by simp only [RedOp.ap]; omega) (fun a b c h1 h2 => Int.le_trans h2 h1) Int.le_refl
    (fun a => by simp only [RedOp.ap]; omega) g hwf axes hne _ rfl hk hpos

/-- **gcxs_reduce_rejects.**  The GCXS route raises `ValueError` exactly where the COO route does: an inadmissible ufunc
(`op fill fill ≠ fill` without super ufunc), or a ufunc without identity over an axis of extent 0. -/
theorem gcxs_reduce_rejects (op : RedOp) (g : GCXS Int) (axes : List Nat) (kd : Bool) (hsup : op.super? = none)
    (h : op.ap g.fill g.fill ≠ g.fill ∨ axes.any (fun a => g.shape.getD a 0 == 0) = true) :
    g.reduceMain op axes kd = .error .value := by
  unfold GCXS.reduceMain
  by_cases h1 : op.ap g.fill g.fill ≠ g.fill ∧ op.super?.isNone
  · rw [if_pos h1]
  · rw [if_neg h1]
    rcases h with h | h
    · exact absurd ⟨h, by simp [hsup]⟩ h1
    · simp only []
      rw [if_pos ⟨by simp [hsup], h⟩]

/-- a 2×3×2 array with `compressed_axes = (1,)` and fill value 1: three stored elements -/
def gR : GCXS Int :=
  { shape := [2, 3, 2], caxes := some [1], indptr := [0, 1, 1, 3], indices := [1, 0, 3], data := [5, 7, 2], fill := 1 }

/-- `gR` is well-formed and the hypotheses of `gcxs_reduce_add_get` hold for `axis=(1,)`.  The result `3` of row
`[1, 0]` equals the new fill value `3·1` and is not stored; the model evaluates to `indptr = [0, 2, 3]`,
`indices = [0, 1, 1]`, `data = [9, 7, 4]`, `fill = 3`, `compressed_axes = (0,)`, which is what the real code returns. -/
example : gR.WF ∧ (∃ a ∈ [1], a < gR.shape.length) ∧
    (List.range gR.shape.length).filter (fun a => !([1] : List Nat).contains a) ≠ [] ∧
    reduceRows (· + ·) [0, 1, 2, 2, 3] [7, 5, 2] 4 = [(0, 7, 1), (1, 5, 1), (3, 2, 1)] := by decide

/-- … and the theorem then gives `out[0, 1] = g[0,0,1] + g[0,1,1] + g[0,2,1]` -/
example : ∃ out, gR.reduceMain .add [1] false = .ok (.arr out) ∧
    out.tocoo.get [0, 1] = gR.tocoo.get [0, 0, 1] + (gR.tocoo.get [0, 1, 1] + (gR.tocoo.get [0, 2, 1] + 0)) := by
  obtain ⟨out, h1, _, _, _, h5⟩ := gcxs_reduce_add_get gR (by decide) [1] (by decide) (by decide)
  refine ⟨out, h1, ?_⟩
  rw [h5 [0, 1] (by decide)]
  rfl

end SparseV.C03
