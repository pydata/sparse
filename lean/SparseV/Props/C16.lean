/-
  Property C16 — sparse stays sparse.
  Every theorem is about the cost semantics `SparseV.Cost` (cells written by the algorithm of the code,
  transcribed in `Model/Cost.lean`); bytes and seconds are runtime facts measured by the harness.
  "cells" of a COO array with `n` stored elements in `d` dimensions: `(d + 1) · n`; "frame": Σ shape + ndim.
-/
import SparseV.Lemmas.Cost
import SparseV.Lemmas.Big
namespace SparseV.C16
open SparseV

variable {α : Type}

/-- a pass that is skipped under some condition costs at most what it costs when it runs -/
theorem ite_zero_le (c : Prop) [Decidable c] (a : Nat) : (if c then 0 else a) ≤ a := by
  split
  · exact Nat.zero_le a
  · exact Nat.le_refl a

/-- **transpose_cost_bound.** K = 4. -/
theorem transpose_cost_bound (x : COO α) (axes : List Nat) :
    Cost.transpose x axes ≤ 4 * (x.cells + (x.transposeCore axes).cells + x.frame) := by
  refine Nat.le_trans (ite_zero_le ..) ?_
  rw [COO.cells_eq, COO.cells_eq, Cost.sort]
  omega

/-- **reshape_cost_bound.** K = 1: `reshape` writes exactly the cells of its result. -/
theorem reshape_cost_bound (x : COO α) (s : List Nat) :
    Cost.reshape x s ≤ 1 * (x.cells + (x.reshapeCore s).cells + x.frame) := by
  refine Nat.le_trans (ite_zero_le ..) ?_
  rw [COO.cells_eq, COO.cells_eq, COO.reshapeCore_nnz, COO.reshapeCore_shape]
  omega

/-- **flip_cost_bound.** K = 10 (validated axes: at most one per dimension). -/
theorem flip_cost_bound (x : COO α) (axes : List Nat) (h : axes.length ≤ x.shape.length) :
    Cost.flip x axes ≤ 10 * (x.cells + (x.flipCore axes).cells + x.frame) := by
  have := Nat.mul_le_mul_right x.nnz h
  rw [COO.cells_eq, COO.cells_eq]
  unfold Cost.flip Cost.sort Cost.sumDup
  omega

/-- **roll_cost_bound.** K = 6. -/
theorem roll_cost_bound (x : COO α) (axes : List Nat) (shifts : List Int) (h : axes.length ≤ x.shape.length) :
    Cost.roll x axes ≤ 6 * (x.cells + (x.rollCore axes shifts).cells + x.frame) := by
  have := Nat.mul_le_mul_right x.nnz h
  rw [COO.cells_eq, COO.cells_eq]
  unfold Cost.roll Cost.sort
  rw [Nat.mul_assoc]
  omega

/-- **squeeze_cost_bound.** K = 1. -/
theorem squeeze_cost_bound (x : COO α) (axes : List Nat) :
    Cost.squeeze x axes ≤ 1 * (x.cells + (x.squeezeCore axes).cells + x.frame) := by
  rw [COO.cells_eq, COO.cells_eq, COO.squeezeCore_nnz]
  unfold Cost.squeeze
  simp only [COO.squeezeCore]; omega

/-- **expand_dims_cost_bound.** K = 1. -/
theorem expand_dims_cost_bound (x : COO α) (p : Nat) :
    Cost.expandDims x ≤ 1 * (x.cells + (x.expandDimsCore p).cells + x.frame) := by
  rw [COO.cells_eq, COO.cells_eq, COO.expandDimsCore_nnz]
  unfold Cost.expandDims
  simp only [COO.expandDimsCore, COO.insertAt_length, Nat.add_mul, Nat.one_mul]; omega

/-- **getitem_basic_cost_bound.** K = 5, for every index made of integers, slices and `None` and every result `r`
(in particular the model's `x.getitemN idx`). -/
theorem getitem_basic_cost_bound (x : COO α) (idx : List NIx) (r : COO α) :
    Cost.getitemBasic x idx r ≤ 5 * (x.cells + r.cells + x.frame) := by
  rw [COO.cells_eq, COO.cells_eq]
  unfold Cost.getitemBasic Cost.mask Cost.sort
  rw [Nat.mul_left_comm, Nat.add_mul, Nat.one_mul]
  split <;> omega

/-- **elemwise1_cost_bound.** K = 2. -/
theorem elemwise1_cost_bound (x r : COO α) (h : r.shape.length = x.shape.length) :
    Cost.elemwise1 x r ≤ 2 * (x.cells + r.cells + x.frame) := by
  rw [COO.cells_eq, COO.cells_eq, h]
  unfold Cost.elemwise1
  rw [Nat.add_mul, Nat.one_mul]
  omega

/-- **elemwise2_cost_bound.** K = 7: two COO operands with `nA`, `nB` stored elements in `d` dimensions, `nOut` in the result. -/
theorem elemwise2_cost_bound (d nA nB nOut : Nat) :
    Cost.elemwise2 d nA nB nOut ≤ 7 * ((d + 1) * nA + (d + 1) * nB + (d + 1) * nOut) := by
  unfold Cost.elemwise2 Cost.sort
  simp only [Nat.add_mul, Nat.mul_add, Nat.one_mul]; omega

/-- **elemwise_mixed_cost_bound.** K = 3: a mixed sparse–dense element-wise operation writes at most three times (stored cells in + stored
cells out + the number of elements of the dense operands' own broadcast shape `D`).  The bound is in `D`, NOT in the broadcast shape of
the result: a `(10^6)^3` array times a vector of length `10^6` costs a few million cells, not `10^18`. -/
theorem elemwise_mixed_cost_bound (d n m D : Nat) :
    Cost.elemwiseMixed d n m D ≤ 3 * ((d + 1) * n + (d + 1) * m + D) := by
  unfold Cost.elemwiseMixed
  simp only [Nat.add_mul, Nat.mul_add, Nat.one_mul]; omega

/-- 300 stored elements of a `(10^6)^3` array scaled along the last axis by a dense vector of length `10^6`: 2 002 100 cells -/
example : Cost.elemwiseMixed 3 300 300 1000000 = 2002100 := by decide

/-- **reduce_cost_bound.** K = 20, for `kept ++ axes` a split of the axes (`kept.length ≤ ndim`), `g ≤ nnz` groups,
`m ≤ g` of which survive pruning. -/
theorem reduce_cost_bound (x : COO Int) (kept axes : List Nat) (g m : Nat) (hk : kept.length ≤ x.shape.length)
    (hg : g ≤ x.nnz) (hm : m ≤ g) :
    Cost.reduce x kept axes g m ≤ 20 * (x.cells + x.frame) := by
  -- the transpose and the reshape to two dimensions cost at most `2·d·n + 4·n` and `3·n`; every later array has at
  -- most `g ≤ n` or `m ≤ n` entries in at most `d` dimensions
  have hT : Cost.transpose x (kept ++ axes) ≤ _ := ite_zero_le ..
  have hR : ∀ a b : Nat, Cost.reshape (x.transposeCore (kept ++ axes)) [a, b] ≤ x.nnz + 2 * x.nnz := by
    intro a b
    rw [← COO.transposeCore_nnz x (kept ++ axes)]
    exact ite_zero_le ..
  have hmn := Nat.le_trans hm hg
  have h1 := Nat.mul_le_mul hk hmn
  have h3 := Nat.mul_le_mul_left x.shape.length hmn
  rw [COO.cells_eq]
  unfold Cost.reduce Cost.prune
  unfold Cost.sort at hT
  dsimp only
  generalize hr : Cost.reshape _ _ = R
  have hR := hr ▸ hR _ _
  omega

/-- **concat_cost_bound.** K = 6 per input cell. -/
theorem concat_cost_bound (d N axis : Nat) : Cost.concat d N axis ≤ 6 * ((d + 1) * N) := by
  have := ite_zero_le (axis = 0) (Cost.sort d N)
  unfold Cost.concat Cost.sort at *
  rw [Nat.add_mul, Nat.one_mul]
  omega

/-- **stack_cost_bound.** K = 8. -/
theorem stack_cost_bound (d N axis : Nat) : Cost.stack d N axis ≤ 8 * ((d + 1) * N) := by
  have := ite_zero_le (axis = 0) (Cost.sort (d + 1) N)
  unfold Cost.stack Cost.sort at *
  rw [Nat.add_mul, Nat.one_mul] at *
  omega

/-- **tri_cost_bound.** K = 1 (`triu`, `tril`). -/
theorem tri_cost_bound (x r : COO α) (h : r.shape.length = x.shape.length) :
    Cost.tri x r ≤ 1 * (x.cells + r.cells + x.frame) := by
  rw [COO.cells_eq, COO.cells_eq, h]
  unfold Cost.tri
  rw [Nat.add_mul, Nat.one_mul]
  omega

/-- **diagonal_cost_bound.** K = 12, `s ≤ nnz` entries on the diagonal. -/
theorem diagonal_cost_bound (x : COO α) (s : Nat) (hs : s ≤ x.nnz) :
    Cost.diagonal x s ≤ 12 * (x.cells + x.frame) := by
  have h1 : (x.shape.length - 1) * s ≤ x.shape.length * x.nnz :=
    Nat.mul_le_mul (Nat.sub_le _ _) hs
  rw [COO.cells_eq]
  unfold Cost.diagonal Cost.sort Cost.sumDup
  omega

/-- **tocoo_cost_bound.** K = 21: `GCXS.tocoo` writes a multiple of the cells of its COO result. -/
theorem tocoo_cost_bound (g : GCXS α) : Cost.tocoo g ≤ 21 * ((g.shape.length + 1) * g.data.length) := by
  unfold Cost.tocoo Cost.sort Cost.sumDup
  simp only [Nat.add_mul, Nat.mul_add, Nat.one_mul]; omega

/-- **from_coo_cost_bound.** K = 7: GCXS with a SINGLE compressed axis `c`: `indptr` has `shape[c] + 1 ≤ Σ shape + 1` cells. -/
theorem from_coo_cost_bound (x : COO α) (c : Nat) (hd : 1 ≤ x.shape.length) :
    Cost.fromCoo x [c] ≤ 7 * (x.cells + x.frame) := by
  unfold Cost.fromCoo COO.cells COO.frame
  have := getD_le_lsum x.shape c
  simp only [COO.gather, List.map_cons, List.map_nil, prod, Nat.mul_one, Nat.add_mul, Nat.mul_add, Nat.one_mul]; omega

/-- **dot_csr_csr_cost_bound.** K = 5: the sparse–sparse product kernels `_dot_csr_csr` / `_dot_coo_coo` for an
`nRow × nCol` result with `nnzOut` stored elements and `work` (a-entry, b-entry) products write at most
`5 · (nnzOut + work + nRow + nCol + 2)` cells — no term in `nRow · nCol` (the scratch arrays `next_`/`sums` are allocated
once and restored entry by entry). -/
theorem dot_csr_csr_cost_bound (nRow nCol nnzOut work : Nat) :
    Cost.dotCsrCsr nRow nCol nnzOut work ≤ 5 * (nnzOut + work + nRow + nCol + 2) := by
  unfold Cost.dotCsrCsr; omega

/-- the full statement for the sparse–sparse product kernels: linear in stored elements out, products and the frame -/
def Statement_dot_csr_csr : Prop :=
  ∃ K : Nat, ∀ nRow nCol nnzOut work : Nat, Cost.dotCsrCsr nRow nCol nnzOut work ≤ K * (nnzOut + work + nRow + nCol + 2)

/-- **statement_dot_csr_csr.** The full statement holds (it was false of the code before the per-row reset
`next_[:] = -1` was removed: two empty `m × m` operands cost more than `m²`). -/
theorem statement_dot_csr_csr : Statement_dot_csr_csr := ⟨5, dot_csr_csr_cost_bound⟩

/-- two `(10^6)^2` operands, 400 stored elements in the result, 500 products: 4 004 001 cells (`10^12` more before the repair) -/
example : Cost.dotCsrCsr 1000000 1000000 400 500 = 4004001 := by decide

/-- one call of a modelled operation, with the sizes the cost depends on (results `r`, group counts `g`, survivors `m`
are those of the model's evaluation; the theorem holds for any values satisfying `Admissible`) -/
inductive Op where
  | transpose (x : COO Int) (axes : List Nat)
  | reshape (x : COO Int) (shape : List Nat)
  | flip (x : COO Int) (axes : List Nat)
  | roll (x : COO Int) (axes : List Nat) (shifts : List Int)
  | squeeze (x : COO Int) (axes : List Nat)
  | expandDims (x : COO Int) (pos : Nat)
  | getitem (x : COO Int) (idx : List NIx) (r : COO Int)
  | elemwise1 (x r : COO Int)
  | elemwise2 (d nA nB nOut : Nat)
  | reduce (x : COO Int) (kept axes : List Nat) (g m : Nat)
  | concat (d N axis : Nat)
  | stack (d N axis : Nat)
  | tri (x r : COO Int)
  | diagonal (x : COO Int) (s : Nat)
  | tocoo (g : GCXS Int)
  | fromCoo1 (x : COO Int) (c : Nat)
  | dotCsrCsr (nRow nCol nnzOut work : Nat)
  | elemwiseMixed (d n m D : Nat)

namespace Op
/-- cells written -/
def cost : Op → Nat
  | transpose x a => Cost.transpose x a
  | reshape x s => Cost.reshape x s
  | flip x a => Cost.flip x a
  | roll x a _ => Cost.roll x a
  | squeeze x a => Cost.squeeze x a
  | expandDims x _ => Cost.expandDims x
  | getitem x i r => Cost.getitemBasic x i r
  | elemwise1 x r => Cost.elemwise1 x r
  | elemwise2 d a b o => Cost.elemwise2 d a b o
  | reduce x k a g m => Cost.reduce x k a g m
  | concat d n a => Cost.concat d n a
  | stack d n a => Cost.stack d n a
  | tri x r => Cost.tri x r
  | diagonal x s => Cost.diagonal x s
  | tocoo g => Cost.tocoo g
  | fromCoo1 x c => Cost.fromCoo x [c]
  | dotCsrCsr r c n w => Cost.dotCsrCsr r c n w
  | elemwiseMixed d n m D => Cost.elemwiseMixed d n m D
/-- stored cells in and out + Σ shape + ndim (products: stored elements out + products + rows + columns;
mixed sparse–dense operations: stored cells in and out + the size of the dense operands, not of the broadcast shape) -/
def size : Op → Nat
  | transpose x a => x.cells + (x.transposeCore a).cells + x.frame
  | reshape x s => x.cells + (x.reshapeCore s).cells + x.frame
  | flip x a => x.cells + (x.flipCore a).cells + x.frame
  | roll x a sh => x.cells + (x.rollCore a sh).cells + x.frame
  | squeeze x a => x.cells + (x.squeezeCore a).cells + x.frame
  | expandDims x p => x.cells + (x.expandDimsCore p).cells + x.frame
  | getitem x _ r => x.cells + r.cells + x.frame
  | elemwise1 x r => x.cells + r.cells + x.frame
  | elemwise2 d a b o => (d + 1) * a + (d + 1) * b + (d + 1) * o
  | reduce x _ _ _ _ => x.cells + x.frame
  | concat d n _ => (d + 1) * n
  | stack d n _ => (d + 1) * n
  | tri x r => x.cells + r.cells + x.frame
  | diagonal x _ => x.cells + x.frame
  | tocoo g => (g.shape.length + 1) * g.data.length
  | fromCoo1 x _ => x.cells + x.frame
  | dotCsrCsr r c n w => n + w + r + c + 2
  | elemwiseMixed d n m D => (d + 1) * n + (d + 1) * m + D
/-- the explicit constant of each operation -/
def K : Op → Nat
  | transpose .. => 4 | reshape .. => 1 | flip .. => 10 | roll .. => 6 | squeeze .. => 1 | expandDims .. => 1
  | getitem .. => 5 | elemwise1 .. => 2 | elemwise2 .. => 7 | reduce .. => 20 | concat .. => 6 | stack .. => 8
  | tri .. => 1 | diagonal .. => 12 | tocoo .. => 21 | fromCoo1 .. => 7 | dotCsrCsr .. => 5 | elemwiseMixed .. => 3
/-- what argument validation and the model guarantee about the sizes -/
def Admissible : Op → Prop
  | flip x a => a.length ≤ x.shape.length
  | roll x a _ => a.length ≤ x.shape.length
  | elemwise1 x r => r.shape.length = x.shape.length
  | reduce x k _ g m => k.length ≤ x.shape.length ∧ g ≤ x.nnz ∧ m ≤ g
  | tri x r => r.shape.length = x.shape.length
  | diagonal x s => s ≤ x.nnz
  | fromCoo1 x _ => 1 ≤ x.shape.length
  | _ => True
end Op

/-- **opCost_sparse_bound.** For every modelled operation with a sparse algorithm, the cells written are at most
`K_op · (stored cells in + stored cells out + Σ shape + ndim)` with the explicit constants `Op.K` (≤ 21). -/
theorem opCost_sparse_bound (o : Op) (h : o.Admissible) : o.cost ≤ o.K * o.size := by
  cases o
  case transpose => exact transpose_cost_bound ..
  case reshape => exact reshape_cost_bound ..
  case flip => exact flip_cost_bound _ _ h
  case roll => exact roll_cost_bound _ _ _ h
  case squeeze => exact squeeze_cost_bound ..
  case expandDims => exact expand_dims_cost_bound ..
  case getitem => exact getitem_basic_cost_bound ..
  case elemwise1 => exact elemwise1_cost_bound _ _ h
  case elemwise2 => exact elemwise2_cost_bound ..
  case reduce => exact reduce_cost_bound _ _ _ _ _ h.1 h.2.1 h.2.2
  case concat => exact concat_cost_bound ..
  case stack => exact stack_cost_bound ..
  case tri => exact tri_cost_bound _ _ h
  case diagonal => exact diagonal_cost_bound _ _ h
  case tocoo => exact tocoo_cost_bound ..
  case fromCoo1 => exact from_coo_cost_bound _ _ h
  case dotCsrCsr => exact dot_csr_csr_cost_bound ..
  case elemwiseMixed => exact elemwise_mixed_cost_bound ..

/-- the full statement for GCXS construction with any admissible compressed axes -/
def Statement_from_coo_any_axes : Prop :=
  ∃ K : Nat, ∀ (x : COO Int) (caxes : List Nat), caxes.length < x.shape.length →
    Cost.fromCoo x caxes ≤ K * (x.cells + x.frame)

/-- the family: the EMPTY array of shape `(m, m, 1)` compressed along axes `(0, 1)`: `indptr` has `m² + 1` cells -/
def gcxsWitness (m : Nat) : COO Int := { shape := [m, m, 1], entries := [], fill := 0 }

/-- **from_coo_counterexample_family.** For every `K` there is an input whose cost exceeds `K ·` its size:
`_from_coo` allocates `prod(compressed extents) + 1` cells for `indptr` (and as many for `bincount`). -/
theorem from_coo_counterexample_family (K : Nat) :
    Cost.fromCoo (gcxsWitness (2 * K + 5)) [0, 1] > K * ((gcxsWitness (2 * K + 5)).cells + (gcxsWitness (2 * K + 5)).frame) := by
  simp only [Cost.fromCoo, gcxsWitness, COO.cells, COO.frame, COO.nnz, COO.gather, List.map, List.getD_cons_zero,
    List.getD_cons_succ, prod, lsum, List.length_cons, List.length_nil, Nat.mul_zero, Nat.mul_one, Nat.zero_add, Nat.add_zero]
  -- `2·m² + 1` cells against `K` times a size of `2·m + 4`, for `m = 2·K + 5`; in monomials of `K`:
  -- `8·K² + 40·K + 51 > 4·K² + 14·K`
  simp only [Nat.two_mul, Nat.mul_add, Nat.add_mul]
  omega

theorem not_Statement_from_coo_any_axes : ¬ Statement_from_coo_any_axes := by
  rintro ⟨K, h⟩
  exact Nat.not_le_of_gt (from_coo_counterexample_family K) (h _ _ (Nat.lt_succ_self 2))

/-- the full statement for indexing with an integer array of length `L` -/
def Statement_getitem_adv_linear : Prop :=
  ∃ K : Nat, ∀ (x : COO Int) (idx : List NIx) (L : Nat) (r : COO Int),
    Cost.getitemAdv x idx L r ≤ K * (x.cells + r.cells + L + x.frame)

/-- the family: `m` stored elements in one dimension indexed by an array of length `m` -/
def advWitness (m : Nat) : COO Int := { shape := [1], entries := List.replicate m ([0], 0), fill := 0 }
def emptyResult : COO Int := { shape := [0], entries := [], fill := 0 }

/-- **getitem_adv_counterexample_family.** `_compute_multi_mask` runs `_compute_mask` over the whole array once per entry
of the index array: the cells written grow like `L · nnz`, not `L + nnz`. -/
theorem getitem_adv_counterexample_family (K : Nat) :
    Cost.getitemAdv (advWitness (K + 1)) [] (K + 1) emptyResult
      > K * ((advWitness (K + 1)).cells + emptyResult.cells + (K + 1) + (advWitness (K + 1)).frame) := by
  simp only [Cost.getitemAdv, Cost.mask, Cost.sort, advWitness, emptyResult, COO.cells, COO.frame, COO.nnz, lsum,
    List.length_cons, List.length_nil, List.length_replicate, Nat.mul_zero, Nat.zero_add, Nat.add_zero, Nat.one_mul]
  -- `3·n²` cells against `K` times a size of `3·n + 2`, for `n = K + 1`; in monomials of `K`:
  -- `3·K² + 6·K + 3 > 3·K² + 5·K`
  simp only [Nat.two_mul, Nat.mul_add, Nat.add_mul, Nat.one_mul]
  omega

theorem not_Statement_getitem_adv_linear : ¬ Statement_getitem_adv_linear := by
  rintro ⟨K, h⟩
  exact Nat.not_le_of_gt (getitem_adv_counterexample_family K) (h ..)

/-- **getitem_adv_partial.** linear for a bounded index array: K = 7 · (L + 1) -/
theorem getitem_adv_partial (x : COO α) (idx : List NIx) (L : Nat) (r : COO α) :
    Cost.getitemAdv x idx L r ≤ 7 * (L + 1) * (x.cells + r.cells + x.frame) := by
  -- `7·(L + 1)·size = L·(7·size) + 7·size`: each of the `L` masks, and what is written after them, is at most `7·size`
  rw [Nat.mul_comm 7, Nat.mul_assoc, Nat.add_one_mul, Cost.getitemAdv, Nat.add_assoc, Nat.add_assoc]
  refine Nat.add_le_add (Nat.mul_le_mul_left L ?_) ?_
  · rw [COO.cells_eq, Cost.mask, Nat.mul_left_comm]
    omega
  · rw [COO.cells_eq r, Cost.sort, Nat.add_mul, Nat.one_mul]
    omega

/-- a (10^6)^3 array with three stored elements -/
def big3 : COO Int :=
  { shape := [1000000, 1000000, 1000000],
    entries := [([0, 5, 7], 1), ([3, 2, 999999], 2), ([999999, 0, 0], 3)],
    fill := 0 }

/-- the cost of transposing it is 30 cells; the bound is 4 · (12 + 12 + 3000003) -/
example : Cost.transpose big3 [2, 0, 1] = 30 := by decide

example : Cost.fromCoo (gcxsWitness 1000) [0, 1] = 2000001 := by decide

end SparseV.C16
