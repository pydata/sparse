/-
  Property C10 — searching, sorting and set functions agree with NumPy / the Array API.
  Property theorems only (proof work is in SparseV.Lemmas.Search).  All theorems quantify over
  every row length, every set of stored positions, every stored value and every fill value
  (below, between, above, tied with stored values); nothing is bounded.

  A *row* is what `_sort_coo` sees of one group / `_compute_minmax_args` sees of one column /
  `unique_*` see of the flattened array: its length `n`, its fill value and its stored
  `(position, value)` pairs with strictly increasing positions (`RowWF`, i.e. the array is canonical).
  `densifyRow n fill es` is the dense row.  The dense side (`sortD`, `argmaxD`, `argminD`,
  `uniqueValuesD`, `uniqueCountsD`, `nonzeroD`) is SparseV.Spec.Search.

  Where the code of the unchanged tree violates the property, the full statement is kept as
  `Statement_…`, refuted on the model by `…_counterexample`, proved outside a decidable
  `Excluded…` region by `…_partial`, and proved in full for the corrected algorithm (`…_fixed`).
-/
import SparseV.Lemmas.Search
namespace SparseV.C10
open SparseV SparseV.Spec SparseV.Search

/-- **sort_row_spec.** For every row of a canonical array, either direction, and every position of the
fill value among the stored values (below, between, above, tied): the dense form of the row that
`_sort_coo` produces (sorted stored data, tail shifted by the number of unstored cells from the first
position where the fill value precedes) is the sorted dense row, and the produced row is again a
well-formed row (positions strictly increasing and in range — the `sorted=True,
has_duplicates=False` promise made to the constructor is justified). -/
theorem sort_row_spec (descending : Bool) (n : Nat) (fill : Int) (es : Row) (h : RowWF n es) :
    densifyRow n fill (sortRow descending n fill es) = sortD descending (densifyRow n fill es)
    ∧ RowWF n (sortRow descending n fill es) :=
  (sortRow_dense descending n fill es h).symm

/-- non-vacuity: fill value 0 lies between the stored values, one stored value ties with it -/
example : RowWF 6 [(0, 2), (2, -1), (3, 0), (5, 2)] ∧
    densifyRow 6 0 (sortRow false 6 0 [(0, 2), (2, -1), (3, 0), (5, 2)]) = [-1, 0, 0, 0, 2, 2] ∧
    densifyRow 6 0 (sortRow true 6 0 [(0, 2), (2, -1), (3, 0), (5, 2)]) = [2, 2, 0, 0, 0, -1] := by
  have hm : [2, -1, 0, 2].mergeSort leAsc = [-1, 0, 2, 2] := mergeSort_unique false (by decide) (by decide)
  refine ⟨by decide, ?_, ?_⟩
  · simp only [sortRow, List.map_cons, List.map_nil, hm]
    decide
  · simp only [sortRow, List.map_cons, List.map_nil, hm]
    decide

/-- **sort_coo_rows.** The whole kernel: for a 2-d coordinate list sorted by group (what `sort` hands to
`_sort_coo` after `moveaxis`/`reshape`), every group `g` — stored or not — of the result densifies to the
sorted dense row of group `g` of the input; the group detection loop loses and duplicates nothing. -/
theorem sort_coo_rows (descending : Bool) (n : Nat) (fill : Int) (es : List (Nat × Nat × Int))
    (hs : (es.map (·.1)).Pairwise (· ≤ ·)) (hrow : ∀ g, RowWF n (es.filterMap (rowOf g))) (g : Nat) :
    densifyRow n fill ((sortCoo descending n fill es).filterMap (rowOf g))
      = sortD descending (densifyRow n fill (es.filterMap (rowOf g)))
    ∧ RowWF n ((sortCoo descending n fill es).filterMap (rowOf g)) := by
  rw [sortCoo_row descending n fill es hs g]
  exact sort_row_spec descending n fill _ (hrow g)

/-- non-vacuity: three groups, the middle one without stored entries -/
example : (([(0, 1, 5), (0, 3, -1), (2, 0, 7)] : List (Nat × Nat × Int)).map (·.1)).Pairwise (· ≤ ·) ∧
    ∀ g, g < 3 → RowWF 4 (([(0, 1, 5), (0, 3, -1), (2, 0, 7)] : List (Nat × Nat × Int)).filterMap (rowOf g)) := by
  decide

/-- the full statement: the column result is the index of the first maximal element of the dense column -/
def Statement_argmax_first_occurrence : Prop :=
  ∀ (n : Nat) (fill : Int) (es : Row), RowWF n es → argMinMaxCol true n fill es = argmaxD (densifyRow n fill es)

def Statement_argmin_first_occurrence : Prop :=
  ∀ (n : Nat) (fill : Int) (es : Row), RowWF n es → argMinMaxCol false n fill es = argminD (densifyRow n fill es)

theorem argMinMaxCol_stored_fill (maxMode : Bool) : argMinMaxCol maxMode 2 0 [(0, 0)] = 1 := by
  simp only [argMinMaxCol, List.map_cons, List.map_nil, List.mergeSort_singleton]
  revert maxMode
  decide

/-- **argmax_first_occurrence_counterexample.** Dense column `[0, 0]`, fill 0, position 0 explicitly
stored: the kernel answers 1 (the first unstored position), NumPy answers 0. -/
theorem argmax_first_occurrence_counterexample : ¬ Statement_argmax_first_occurrence := fun h =>
  absurd ((argMinMaxCol_stored_fill true).symm.trans (h 2 0 [(0, 0)] (by decide))) (by decide)

theorem argmin_first_occurrence_counterexample : ¬ Statement_argmin_first_occurrence := fun h =>
  absurd ((argMinMaxCol_stored_fill false).symm.trans (h 2 0 [(0, 0)] (by decide))) (by decide)

/-- **argmax_first_occurrence_partial.** Outside the region `ExcludedArgStoredFill` (fill value is
the maximum, column not full, an explicitly stored fill-valued element before the first unstored
position) the column result of `_compute_minmax_args` is the index of the first maximal element of
the dense column — ties between stored values, and between stored values and the fill value, included. -/
theorem argmax_first_occurrence_partial (n : Nat) (fill : Int) (es : Row) (h : RowWF n es)
    (hex : ExcludedArgStoredFill true n fill es = false) :
    argMinMaxCol true n fill es = argmaxD (densifyRow n fill es) :=
  argMinMaxCol_dense true n fill es h hex

theorem argmin_first_occurrence_partial (n : Nat) (fill : Int) (es : Row) (h : RowWF n es)
    (hex : ExcludedArgStoredFill false n fill es = false) :
    argMinMaxCol false n fill es = argminD (densifyRow n fill es) :=
  argMinMaxCol_dense false n fill es h hex

theorem excludedArg_of_nofill (maxMode : Bool) (n : Nat) (fill : Int) (es : Row) (hnf : ∀ e ∈ es, e.2 ≠ fill) :
    ExcludedArgStoredFill maxMode n fill es = false := by
  rw [ExcludedArgStoredFill, Bool.and_eq_false_iff]
  exact .inr (List.any_eq_false.mpr fun e he => by simp [hnf e he])

/-- **argmax_first_occurrence.** For every column that stores no fill-valued element (what every
constructor with `prune=True` and every sparse operation returns): first-occurrence argmax, for any
fill value, any stored subset, empty / partly filled / full columns. -/
theorem argmax_first_occurrence (n : Nat) (fill : Int) (es : Row) (h : RowWF n es) (hnf : ∀ e ∈ es, e.2 ≠ fill) :
    argMinMaxCol true n fill es = argmaxD (densifyRow n fill es) :=
  argmax_first_occurrence_partial n fill es h (excludedArg_of_nofill true n fill es hnf)

/-- **argmin_first_occurrence.** -/
theorem argmin_first_occurrence (n : Nat) (fill : Int) (es : Row) (h : RowWF n es) (hnf : ∀ e ∈ es, e.2 ≠ fill) :
    argMinMaxCol false n fill es = argminD (densifyRow n fill es) :=
  argmin_first_occurrence_partial n fill es h (excludedArg_of_nofill false n fill es hnf)

/-- **argminmax_first_occurrence_fixed.** With the prune step of `C10-stored-fill.diff` in front of the
kernel the full statement holds for every canonical column, explicitly stored fill values included. -/
theorem argminmax_first_occurrence_fixed (n : Nat) (fill : Int) (es : Row) (h : RowWF n es) :
    argMinMaxColWith true true n fill es = argmaxD (densifyRow n fill es) ∧
    argMinMaxColWith true false n fill es = argminD (densifyRow n fill es) := by
  unfold argMinMaxColWith
  simp only [if_true]
  have hnf : ∀ e ∈ pruneRow fill es, e.2 ≠ fill := fun e he hv =>
    pruneRow_nofill fill es (List.mem_map.mpr ⟨e, he, hv⟩)
  rw [← densifyRow_prune fill h]
  exact ⟨argmax_first_occurrence n fill _ (pruneRow_wf fill h) hnf, argmin_first_occurrence n fill _ (pruneRow_wf fill h) hnf⟩

/-- **minmax_args_columns.** The whole kernel `_compute_minmax_args` on arrays that store no fill value:
it lists exactly the columns that have a stored entry, each with the first-occurrence argmax / argmin of
its dense column (the unlisted columns are all-fill: their answer 0 is the result array's fill value). -/
theorem minmax_args_columns (maxMode : Bool) (n : Nat) (fill : Int) (es : List (Nat × Nat × Int))
    (hcol : ∀ j, RowWF n (es.filterMap (colOf j))) (hnf : ∀ e ∈ es, e.2.2 ≠ fill) :
    (∀ p ∈ computeMinmaxArgs maxMode n fill es,
      p.2 = (if maxMode then argmaxD else argminD) (densifyRow n fill (es.filterMap (colOf p.1)))) ∧
    (∀ e ∈ es, ∃ p ∈ computeMinmaxArgs maxMode n fill es, p.1 = e.2.1) ∧
    (∀ j, (∀ p ∈ computeMinmaxArgs maxMode n fill es, p.1 ≠ j) → es.filterMap (colOf j) = []) := by
  have covers : ∀ e ∈ es, ∃ p ∈ computeMinmaxArgs maxMode n fill es, p.1 = e.2.1 := fun e he =>
    ⟨(e.2.1, argMinMaxCol maxMode n fill (es.filterMap (colOf e.2.1))), mem_computeMinmaxArgs.mpr ⟨⟨e, he, rfl⟩, rfl⟩, rfl⟩
  refine ⟨fun p hp => ?_, covers, fun j hj => ?_⟩
  · have hnf' : ∀ e ∈ es.filterMap (colOf p.1), e.2 ≠ fill := by
      intro e he
      obtain ⟨e', he', hk⟩ := List.mem_filterMap.mp he
      unfold colOf at hk
      split at hk
      · rw [← Option.some.inj hk]; exact hnf e' he'
      · cases hk
    rw [(mem_computeMinmaxArgs.mp hp).2]
    exact argMinMaxCol_dense maxMode n fill _ (hcol p.1) (excludedArg_of_nofill maxMode n fill _ hnf')
  · rw [List.filterMap_eq_nil_iff]
    intro e he
    obtain ⟨p, hp, hk⟩ := covers e he
    exact if_neg fun hh => hj p hp (hk.trans hh)

/-- the answer for a column without stored entries (result fill value 0) is right as well -/
theorem argminmax_empty_column (n : Nat) (fill : Int) :
    argmaxD (densifyRow n fill []) = 0 ∧ argminD (densifyRow n fill []) = 0 := by
  rw [densifyRow_eq_walk fill (RowFrom.nil 0 n), denseWalk]
  cases n with
  | zero => exact ⟨rfl, rfl⟩
  | succ n => simp [argmaxD, argminD, List.replicate_succ, List.findIdx_cons]

/-- non-vacuity: fill 0 ties with the maximum of a column whose stored values are all below it; the
first unstored position (1) wins over the later ones; and a stored maximum tie picks the first -/
example : RowWF 4 [(0, -2), (2, -1)] ∧ (∀ e ∈ [((0 : Nat), (-2 : Int)), (2, -1)], e.2 ≠ 0) ∧
    argMinMaxCol true 4 0 [(0, -2), (2, -1)] = 1 ∧ argMinMaxCol true 4 0 [(1, 3), (3, 3)] = 1 ∧
    argMinMaxCol false 4 0 [(0, -2), (2, -2)] = 0 := by
  -- the first column takes the branch that sorts the positions, which `decide` does not unfold
  exact ⟨by decide, by decide, (argmax_first_occurrence 4 0 _ (by decide) (by decide)).trans (by decide), by decide,
    by decide⟩

def Statement_unique_values_spec : Prop :=
  ∀ (n : Nat) (fill : Int) (es : Row), RowWF n es → uniqueValues n fill es = uniqueValuesD (densifyRow n fill es)

/-- **unique_values_counterexample.** Dense `[0, 0]`, fill 0, position 0 explicitly stored: the model
(as the code) lists the value 0 twice. -/
theorem unique_values_counterexample : ¬ Statement_unique_values_spec := by
  intro h
  have hs := uniqueValuesD_sorted (densifyRow 2 0 [(0, 0)])
  rw [← h 2 0 [(0, 0)] (by decide)] at hs
  have hnd : ((0 :: uniqueValuesD [0]).mergeSort leAsc).Nodup := hs.imp Int.ne_of_lt
  exact (List.nodup_cons.mp ((List.mergeSort_perm _ _).nodup_iff.mp hnd)).1 ((mem_uniqueValuesD _ _).mpr List.mem_cons_self)

/-- **unique_values_partial.** Outside `ExcludedStoredFill` (an unstored cell exists and a stored
element equals the fill value) `unique_values` returns the distinct elements of the dense array in
ascending order. -/
theorem unique_values_partial (n : Nat) (fill : Int) (es : Row) (h : RowWF n es)
    (hex : ExcludedStoredFill n fill es = false) :
    uniqueValues n fill es = uniqueValuesD (densifyRow n fill es) :=
  uniqueValuesWith_dense false fill h (Or.inr hex)

/-- **unique_values_spec_fixed** (corrected algorithm, `C10-stored-fill.diff`): the full statement. -/
theorem unique_values_spec_fixed (n : Nat) (fill : Int) (es : Row) (h : RowWF n es) :
    uniqueValuesFixed n fill es = uniqueValuesD (densifyRow n fill es) :=
  uniqueValuesWith_dense true fill h (Or.inl rfl)

/-- the full statement: values ascending, counts are the dense multiplicities -/
def Statement_unique_counts_spec : Prop :=
  ∀ (n : Nat) (fill : Int) (es : Row), RowWF n es →
    uniqueCounts n fill es = ((uniqueCountsD (densifyRow n fill es)).map (·.1), (uniqueCountsD (densifyRow n fill es)).map (·.2))

/-- the model on the witness: dense `[-3, -2, 0, 1, 0]`, fill 0 — the code's answer -/
theorem unique_counts_witness :
    uniqueCounts 5 0 [(0, -3), (1, -2), (3, 1)] = ([-2, 0, -3, 1], [1, 2, 1, 1]) ∧
    uniqueCountsD (densifyRow 5 0 [(0, -3), (1, -2), (3, 1)]) = [(-3, 1), (-2, 1), (0, 2), (1, 1)] ∧
    ExcludedTwoBelow 5 0 [(0, -3), (1, -2), (3, 1)] = true := by
  -- `List.mergeSort` is defined by well-founded recursion, which `decide` does not unfold: the sorted lists and the
  -- argsort come from the lemmas that characterise them, the rest is evaluated
  have hu : uniqueValuesD [-3, -2, 1] = [-3, -2, 1] := uniqueValuesD_of_sorted (by decide)
  have ha : argsort [0, -3, -2, 1] = [1, 2, 0, 3] := argsort_eq_of (by decide) (by decide)
  have hs : [-3, -2, 0, 1, 0].mergeSort leAsc = [-3, -2, 0, 0, 1] := mergeSort_unique false (by decide) (by decide)
  have hd : uniqueValuesD [-3, -2, 0, 1, 0] = [-3, -2, 0, 1] := by rw [uniqueValuesD, hs]; decide
  refine ⟨?_, ?_, ?_⟩
  · simp only [uniqueCounts, uniqueCountsWith, uniqueCountsD, Bool.false_eq_true, if_false, List.map_cons, List.map_nil,
      hu, ha]
    decide
  · rw [show densifyRow 5 0 [(0, -3), (1, -2), (3, 1)] = [-3, -2, 0, 1, 0] by decide, uniqueCountsD, hd]
    decide
  · rw [ExcludedTwoBelow]
    simp only [List.map_cons, List.map_nil, hu]
    decide

/-- **unique_counts_counterexample.** `values[sorted_indices] = values.copy()` applies the inverse
permutation: on dense `[-3, -2, 0, 1, 0]` (fill 0) the model, as the code, answers values
`[-2, 0, -3, 1]`, NumPy `[-3, -2, 0, 1]`. -/
theorem unique_counts_counterexample : ¬ Statement_unique_counts_spec := by
  intro h
  have := h 5 0 [(0, -3), (1, -2), (3, 1)] (by decide)
  rw [unique_counts_witness.1, unique_counts_witness.2.1] at this
  revert this
  decide

/-- **unique_counts_partial.** Outside the two excluded regions — `ExcludedTwoBelow` (an unstored cell
exists and at least two distinct stored values lie below the fill value) and `ExcludedStoredFill` —
`unique_counts` returns the distinct dense values ascending with their dense multiplicities. -/
theorem unique_counts_partial (n : Nat) (fill : Int) (es : Row) (h : RowWF n es)
    (hex1 : ExcludedTwoBelow n fill es = false) (hex2 : ExcludedStoredFill n fill es = false) :
    uniqueCounts n fill es
      = ((uniqueCountsD (densifyRow n fill es)).map (·.1), (uniqueCountsD (densifyRow n fill es)).map (·.2)) :=
  uniqueCountsWith_dense .scatter false fill h (Or.inr hex2) (Or.inr hex1)

/-- **unique_counts_spec_fixed**: for the corrected algorithm (`values = values[sorted_indices]` and stored fill
values dropped first): the full statement, every row, every fill value. -/
theorem unique_counts_spec_fixed (n : Nat) (fill : Int) (es : Row) (h : RowWF n es) :
    uniqueCountsFixed n fill es
      = ((uniqueCountsD (densifyRow n fill es)).map (·.1), (uniqueCountsD (densifyRow n fill es)).map (·.2)) :=
  uniqueCountsWith_dense .gather true fill h (Or.inl rfl) (Or.inl rfl)

/-- **unique_counts_any_variant.** The same for every combination of the two proposed fixes: each fix
removes exactly its own excluded region (so the order in which they are applied upstream is irrelevant). -/
theorem unique_counts_any_variant (step : PermStep) (prune : Bool) (n : Nat) (fill : Int) (es : Row) (h : RowWF n es)
    (h1 : prune = true ∨ ExcludedStoredFill n fill es = false)
    (h2 : step = .gather ∨ ExcludedTwoBelow n fill (if prune then pruneRow fill es else es) = false) :
    uniqueCountsWith step prune n fill es
      = ((uniqueCountsD (densifyRow n fill es)).map (·.1), (uniqueCountsD (densifyRow n fill es)).map (·.2)) :=
  uniqueCountsWith_dense step prune fill h h1 h2

/-- non-vacuity of the partial theorem: one stored value below the fill, two above, an unstored cell -/
example : RowWF 5 [(0, -1), (2, 4), (3, 7)] ∧ ExcludedTwoBelow 5 2 [(0, -1), (2, 4), (3, 7)] = false ∧
    ExcludedStoredFill 5 2 [(0, -1), (2, 4), (3, 7)] = false := by
  refine ⟨by decide, ?_, by decide⟩
  rw [ExcludedTwoBelow]
  simp only [List.map_cons, List.map_nil, uniqueValuesD_of_sorted (l := [-1, 4, 7]) (by decide)]
  decide

def Statement_nonzero_rowmajor : Prop :=
  ∀ (x : COO Int), x.Canonical → x.fill = 0 → x.shape ≠ [] → nonzero x = .ok (nonzeroD x)

/-- **nonzero_rowmajor_counterexample.** A canonical `[0, 5]` with the zero at position 0 explicitly
stored: the model (as the code) reports position 0 as well. -/
theorem nonzero_rowmajor_counterexample : ¬ Statement_nonzero_rowmajor := by
  intro h
  have := h { shape := [2], entries := [([0], 0), ([1], 5)], fill := 0 }
    ⟨by decide, by decide⟩ rfl (by decide)
  revert this
  decide

/-- **nonzero_rowmajor** (partial: arrays that store no zero). For a canonical array with fill value 0
and rank ≥ 1 that stores no zero, `COO.nonzero` (= `argwhere` rows = `where(cond)`) is the row-major
list of the positions of the non-zero elements of the dense array. -/
theorem nonzero_rowmajor (x : COO Int) (hc : x.Canonical) (hfill : x.fill = 0) (hsh : x.shape ≠ [])
    (hnf : ∀ e ∈ x.entries, e.2 ≠ 0) : nonzero x = .ok (nonzeroD x) :=
  nonzeroWith_dense false x hc hfill hsh (Or.inr hnf)

/-- **nonzero_rowmajor_fixed** (`C10-stored-fill.diff`: stored zeros filtered): the full statement. -/
theorem nonzero_rowmajor_fixed (x : COO Int) (hc : x.Canonical) (hfill : x.fill = 0) (hsh : x.shape ≠ []) :
    nonzeroFixed x = .ok (nonzeroD x) :=
  nonzeroWith_dense true x hc hfill hsh (Or.inl rfl)

/-- the error branches are modelled, not totalised: non-zero fill value and 0-d input are rejected -/
theorem nonzero_rejects (prune : Bool) (x : COO Int) (h : x.fill ≠ 0 ∨ x.shape = []) :
    nonzeroWith prune x = .error .value := by
  unfold nonzeroWith
  rcases h with h | h
  · simp [h]
  · by_cases hf : x.fill = 0 <;> simp [hf, h]

/-- non-vacuity: a canonical 2×3 array -/
example : (⟨[2, 3], [([0, 1], 5), ([1, 0], -2), ([1, 2], 7)], 0⟩ : COO Int).Canonical ∧
    nonzero (⟨[2, 3], [([0, 1], 5), ([1, 0], -2), ([1, 2], 7)], 0⟩ : COO Int) = .ok [[0, 1], [1, 0], [1, 2]] := by
  exact ⟨⟨by decide, by decide⟩, by decide⟩

end SparseV.C10
