/-
  Property C04 — products and contractions agree with NumPy for all operand kinds; and they always
  return.  Property theorems only.  Kernel models: SparseV.Model.Dot (loop-faithful); specification:
  SparseV.Spec.Matmul (`matmulSpec n a b i k = Σ_{j<n} a i j * b j k`).  All theorems are for every
  size, every sparsity pattern and every `Int` values (so: including cancelling sums, empty rows,
  zero-width operands, duplicate and unsorted minor indices).
-/
import SparseV.Lemmas.Dot
namespace SparseV.C04
open SparseV.Dot SparseV.Spec

/-- **csr_dense_kernel_spec.** For every CSR triple whose column indices are below the inner
dimension `n` and every dense right operand, element `(i, k)` of the output of `_dot_csr_ndarray`
is `Σ_{j<n} a[i,j] · b[j,k]`, where `a[i,j]` is the dense value the triple stands for. -/
theorem csr_dense_kernel_spec (nRow n nCol : Nat) (A : CSR) (b : DenseM) (hA : A.ColsIn n)
    (i k : Nat) (hi : i < nRow) (hk : k < nCol) :
    dget (dotCsrNd nRow nCol A b) i k = matmulSpec n A.get (dget b) i k := by
  rw [matmulSpec_csr hA]
  show ((dotCsrNd nRow nCol A b).getD i []).getD k 0 = _
  rw [dotCsrNd, getD_map_range nRow i _ [] hi, dotCsrNdRow_getD nCol _ b k hk]

/-- non-vacuity: a 2×3 CSR matrix with an empty row times a 3×2 dense matrix with a cancelling sum -/
def exA : CSR := { indptr := [0, 2, 2], indices := [0, 2], data := [1, -1] }
def exB : DenseM := [[2, 5], [9, 9], [2, 1]]
example : exA.ColsIn 3 ∧ dotCsrNd 2 2 exA exB = [[0, 4], [0, 0]] ∧ matmulSpec 3 exA.get (dget exB) 0 1 = 4 := by decide

/-- **csr_csr_kernel_spec** (value level).  For all CSR operands with in-range minor indices
(any order, duplicates allowed, any values), the `(column, value)` entries the main loop of
`_dot_csr_csr` writes for output row `i` — positions `indptr[i] .. indptr[i+1]` — looked up at column
`k` give `Σ_{j<n} a[i,j] · b[j,k]`; a column that was not written has product value 0. -/
theorem csr_csr_kernel_spec (nRow n nCol : Nat) (A B : CSR) (hA : A.ColsIn n) (hB : B.ColsIn nCol)
    (i k : Nat) (hi : i < nRow) :
    lookupK (writtenRow (dotCsrCsrLoop nRow nCol A B) i) k = matmulSpec n A.get B.get i k := by
  rw [writtenRow_loop nRow nCol A B hB i hi, lookupK_rowEmit_row hA]

/-- **csr_csr_emission_order.** The columns written for output row `i` appear in *reverse
first-touch order* (the linked list is walked from its head), each exactly once — not in increasing
order.  (This is why `GCXS @ GCXS` results have unsorted `indices`; see `rows_sorted_counterexample`.) -/
theorem csr_csr_emission_order (nRow nCol : Nat) (A B : CSR) (hA : A.WF) (hBw : B.WF) (hB : B.ColsIn nCol)
    (i : Nat) (hi : i < nRow) :
    (writtenRow (dotCsrCsrLoop nRow nCol A B) i).map (·.1) = chainOf (touchKeys A B i) := by
  rw [writtenRow_loop nRow nCol A B hB i hi, rowEmit, List.map_map, keys_touches hA hBw]
  exact List.map_id _

/-- **csr_csr_precount_eq_written** (the memory-safety obligation).  The number of slots
`_csr_csr_count_nnz` makes `_dot_csr_csr` allocate equals the number of entries its main loop writes:
no write falls outside `indices`/`data` and no slot stays uninitialised. -/
theorem csr_csr_precount_eq_written (nRow nCol : Nat) (A B : CSR) (hA : A.WF) (hBw : B.WF) (hB : B.ColsIn nCol) :
    csrCsrCountNnz nRow nCol A B = (dotCsrCsrLoop nRow nCol A B).out.length := by
  rw [csrCsrCountNnz_eq_length nRow nCol A B hA hBw hB, (dotCsrCsrLoop_closed nRow nCol A B hB).2.1]

/-- **csr_csr_kernel_full.** The complete `_dot_csr_csr` — pre-count, row loop and the final
"if the result is completely dense, reverse every block of `n_col` entries" tail: whenever it
returns `(data, indices, indptr)`, (1) the arrays are exactly as long as the pre-count allocated
(no out-of-bounds write, no uninitialised slot), and (2) row `i` of the result (positions
`indptr[i] .. indptr[i+1]`), looked up at column `k`, is `Σ_{j<n} a[i,j] · b[j,k]`.  The tail is
harmless because a completely dense result forces every row to have exactly `n_col` entries
(distinct columns below `n_col`: pigeonhole), so the blocks it reverses are the rows. -/
theorem csr_csr_kernel_full (nRow n nCol : Nat) (A B : CSR) (hA : A.ColsIn n) (hAw : A.WF) (hBw : B.WF)
    (hB : B.ColsIn nCol) (o : SparseOut) (ho : dotCsrCsr nRow nCol A B = .ok o) :
    o.alloc = o.data.length ∧ o.indices.length = o.data.length ∧
    ∀ i k, i < nRow →
      lookupK (slice (o.indices.zip o.data) (o.indptr.getD i 0) (o.indptr.getD (i + 1) 0)) k
        = matmulSpec n A.get B.get i k := by
  obtain ⟨h1, h2, rev, h3⟩ := dotCsrCsr_rows nRow nCol A B hAw hBw hB o ho
  refine ⟨h1, h2, fun i k hi => ?_⟩
  rw [h3 i hi, ← lookupK_rowEmit_row hA B i k]
  cases rev
  · rfl
  · exact lookupK_rowEmit_reverse _ _ k

/-- non-vacuity for the tail: a completely dense 2×2 result; the rows are reversed back to `[0, 1]` -/
example : dotCsrCsr 2 2 { indptr := [0, 2, 4], indices := [0, 1, 0, 1], data := [1, 1, 1, 1] }
    { indptr := [0, 2, 4], indices := [0, 1, 0, 1], data := [1, 2, 3, 4] }
    = .ok { data := [4, 6, 4, 6], indices := [0, 1, 0, 1], indptr := [0, 2, 4], alloc := 4 } := by rfl

/-- non-vacuity and the order finding: a 1×2 times 2×4 product (canonical operands) whose row comes
out as columns `[1, 2, 0]` (reverse first touch), although the values are right -/
def exC : CSR := { indptr := [0, 2], indices := [0, 1], data := [1, 1] }
def exD : CSR := { indptr := [0, 2, 4], indices := [0, 2, 1, 2], data := [3, 4, 5, -4] }
example : exC.WF ∧ exD.WF ∧ exC.ColsIn 2 ∧ exD.ColsIn 4
    ∧ writtenRow (dotCsrCsrLoop 1 4 exC exD) 0 = [(1, 5), (2, 0), (0, 3)]
    ∧ csrCsrCountNnz 1 4 exC exD = 3 := by decide

/-- The statement "every row of a `_dot_csr_csr` result has strictly increasing column indices"
(canonical GCXS form, property C06) … -/
def Statement_csr_csr_rows_sorted : Prop :=
  ∀ (nRow nCol : Nat) (A B : CSR) (o : SparseOut), A.WF → B.WF → B.ColsIn nCol → dotCsrCsr nRow nCol A B = .ok o →
    ∀ i, i < nRow → (slice o.indices (o.indptr.getD i 0) (o.indptr.getD (i + 1) 0)).Pairwise (· < ·)

/-- … is false: the witness above (`GCXS([[1,1]]) @ GCXS([[3,0,4,0],[0,5,-4,0]])`) yields columns `[1, 2, 0]`. -/
theorem rows_sorted_counterexample : ¬ Statement_csr_csr_rows_sorted := by
  intro h
  have e : dotCsrCsr 1 4 exC exD = .ok { data := [5, 0, 3], indices := [1, 2, 0], indptr := [0, 3], alloc := 3 } := by rfl
  have := h 1 4 exC exD _ (by decide) (by decide) (by decide) e 0 (by decide)
  revert this
  decide

/-- **csr_nd_sparse_kernel_spec.** `_dot_csr_ndarray_sparse`: the pre-count `_csr_ndarray_count_nnz`
allocates exactly the entries written, `indptr` delimits the rows, and row `i` looked up at column
`k < n_col` is `Σ_{j<n} a[i,j] · b[j,k]` (a column is skipped only when every factor `b[j,k]` met by the
row is 0, and then the sum is 0). -/
theorem csr_nd_sparse_kernel_spec (nRow n nCol : Nat) (A : CSR) (b : DenseM) (hA : A.ColsIn n) (hAw : A.WF) :
    (dotCsrNdSparse nRow nCol A b).alloc = (dotCsrNdSparse nRow nCol A b).data.length ∧
    ∀ i k, i < nRow → k < nCol →
      lookupK (slice ((dotCsrNdSparse nRow nCol A b).indices.zip (dotCsrNdSparse nRow nCol A b).data)
          ((dotCsrNdSparse nRow nCol A b).indptr.getD i 0) ((dotCsrNdSparse nRow nCol A b).indptr.getD (i + 1) 0)) k
        = matmulSpec n A.get (dget b) i k := by
  obtain ⟨h1, h2, h3⟩ := dotCsrNdSparse_closed nRow nCol A b hAw
  refine ⟨h3, ?_⟩
  intro i k hi hk
  rw [rows_slice (fun i => dotCsrNdSparseRow nCol (A.row i) b) nRow _ _ h1 h2 i hi, dotCsrNdSparseRow_eq,
    lookupK_filter_map, matmulSpec_csr hA]
  by_cases hhit : ((A.row i).any fun e => dget b e.1 k != 0) = true
  · rw [if_pos ⟨hk, hhit⟩]
  · rw [if_neg fun h => hhit h.2]
    symm
    apply sum_map_eq_zero
    intro e he
    have : dget b e.1 k = 0 :=
      Decidable.byContradiction fun hne => hhit (List.any_eq_true.mpr ⟨e, he, bne_iff_ne.mpr hne⟩)
    rw [this, Int.mul_zero]

/-- non-vacuity: the cancelling sum of column 0 is written as an explicit 0 (`_dot` prunes it afterwards) -/
example : (dotCsrNdSparse 2 2 exA exB).data = [0, 4] ∧ (dotCsrNdSparse 2 2 exA exB).indices = [0, 1]
    ∧ (dotCsrNdSparse 2 2 exA exB).indptr = [0, 2, 2] ∧ (dotCsrNdSparse 2 2 exA exB).alloc = 2 := by decide

/-- **coo_coo_kernel_spec.** The `(row, col, value)` triples `_dot_coo_coo` writes, restricted to
output row `i` and looked up at column `k`, give `Σ_{j<n} a[i,j] · b[j,k]` — for all operands with
in-range column coordinates. -/
theorem coo_coo_kernel_spec (nRow n nCol : Nat) (A B : CSR) (hA : A.ColsIn n) (hB : B.ColsIn nCol)
    (i k : Nat) (hi : i < nRow) :
    lookupK (rowOfTriples (dotCooCooLoop nRow nCol A B).2 i) k = matmulSpec n A.get B.get i k := by
  rw [(dotCooCooLoop_closed nRow nCol A B hB).2, rowOfTriples_flatMap, if_pos hi, lookupK_rowEmit_row hA]

/-- the pre-count of `_dot_coo_coo` equals the number of triples written -/
theorem coo_coo_precount_eq_written (nRow nCol : Nat) (A B : CSR) (hA : A.WF) (hBw : B.WF) (hB : B.ColsIn nCol) :
    (dotCooCoo nRow nCol A B).alloc = (dotCooCoo nRow nCol A B).data.length := by
  show csrCsrCountNnz nRow nCol A B = ((dotCooCooLoop nRow nCol A B).2.map (·.2.2)).length
  rw [List.length_map, csrCsrCountNnz_eq_length nRow nCol A B hA hBw hB, (dotCooCooLoop_closed nRow nCol A B hB).2]
  exact length_flatMap_congr _ _ _ fun i _ => by rw [List.length_map]

example : exC.ColsIn 2 ∧ exD.ColsIn 4 ∧ (dotCooCooLoop 1 4 exC exD).2 = [(0, 1, 5), (0, 2, 0), (0, 0, 3)]
    ∧ (dotCooCoo 1 4 exC exD).alloc = 3 := by decide

/-- "the slots `_csc_ndarray_count_nnz` allocates are exactly the entries `_dot_csc_ndarray_sparse`
writes" (what `csr_csr_precount_eq_written` proves for `_dot_csr_csr`) … -/
def Statement_csc_nd_sparse_precount_eq_written : Prop :=
  ∀ (aRows bRows bCols : Nat) (A : CSR) (b : DenseM), A.WF → A.ColsIn aRows →
    (dotCscNdSparse aRows bRows bCols A b).alloc = (dotCscNdSparse aRows bRows bCols A b).data.length

/-- the CSC triple of `[[1, -1, 2]]` and the dense `[[1,0],[1,0],[0,1]]`: column 0 of the product cancels -/
def exE : CSR := { indptr := [0, 1, 2, 3], indices := [0, 0, 0], data := [1, -1, 2] }
def exF : DenseM := [[1, 0], [1, 0], [0, 1]]

/-- … is false: the pre-count looks at the pattern only, the fill loop skips sums that are 0.  Two
slots are allocated and `indptr = [0, 1, 2]`, but one entry is written: the entry of column 1 lands in
column 0's slot and the last slot stays uninitialised
(`tensordot(GCXS([[1,-1,2]], compressed_axes=(1,)), [[1,0],[1,0],[0,1]], return_type=GCXS)`). -/
theorem csc_nd_sparse_precount_counterexample : ¬ Statement_csc_nd_sparse_precount_eq_written := by
  intro h
  have := h 1 3 2 exE exF (by decide) (by decide)
  revert this
  decide

example : (dotCscNdSparse 1 3 2 exE exF).alloc = 2 ∧ (dotCscNdSparse 1 3 2 exE exF).data = [2]
    ∧ (dotCscNdSparse 1 3 2 exE exF).indptr = [0, 1, 2] := by decide

/-- "the row indices of every column written by `_dot_csc_ndarray_sparse` increase" … -/
def Statement_csc_nd_sparse_cols_sorted : Prop :=
  ∀ (aRows bRows bCols : Nat) (A : CSR) (b : DenseM), A.WF → A.ColsIn aRows → ∀ i, i < bCols →
    (slice (dotCscNdSparse aRows bRows bCols A b).indices ((dotCscNdSparse aRows bRows bCols A b).indptr.getD i 0)
      ((dotCscNdSparse aRows bRows bCols A b).indptr.getD (i + 1) 0)).Pairwise (· < ·)

/-- … is false (same linked-list walk): `[[1,0],[2,0],[0,3]]` (CSC) times `[[1,1],[0,1]]` gives column 0 as rows `[1, 0]`. -/
theorem csc_cols_sorted_counterexample : ¬ Statement_csc_nd_sparse_cols_sorted := by
  intro h
  have := h 3 2 2 { indptr := [0, 2, 3], indices := [0, 1, 2], data := [1, 2, 3] } [[1, 1], [0, 1]] (by decide) (by decide) 0 (by decide)
  revert this
  decide

/-- the region in which `_dot_csc_ndarray_sparse` leaves allocated slots unwritten: some position
touched while computing an output column ends with sum 0 -/
def ExcludedCscCancel (bRows bCols : Nat) (A : CSR) (b : DenseM) : Bool :=
  (List.range bCols).any fun i =>
    (chainOf ((cscTouches bRows A b i).map (·.1))).any fun k => CSR.contrib (cscTouches bRows A b i) k == 0

example : ExcludedCscCancel 3 2 exE exF = true
    ∧ ExcludedCscCancel 2 2 { indptr := [0, 2, 3], indices := [0, 1, 2], data := [1, 2, 3] } [[1, 1], [0, 1]] = false := by decide

/-! ### stated, not proved (validated differentially on every run: model output vs product) -/

/-- dense value of a COO operand given as its element list -/
def cooGet (es : List Ent) (i j : Nat) : Int := ((es.filter fun e => e.1 == i && e.2.1 == j).map (·.2.2)).sum

/-- outside `ExcludedCscCancel`, `_dot_csc_ndarray_sparse` writes what it allocated and column `i` of its
output looked up at row `k` is the product (`A` holds the columns of `a`: `a[k,j] = A.get j k`) -/
def Statement_csc_nd_sparse_kernel_spec_partial : Prop :=
  ∀ (aRows bRows bCols : Nat) (A : CSR) (b : DenseM), A.WF → A.ColsIn aRows → ExcludedCscCancel bRows bCols A b = false →
    (dotCscNdSparse aRows bRows bCols A b).alloc = (dotCscNdSparse aRows bRows bCols A b).data.length ∧
    ∀ i k, i < bCols → k < aRows →
      lookupK (slice ((dotCscNdSparse aRows bRows bCols A b).indices.zip (dotCscNdSparse aRows bRows bCols A b).data)
          ((dotCscNdSparse aRows bRows bCols A b).indptr.getD i 0) ((dotCscNdSparse aRows bRows bCols A b).indptr.getD (i + 1) 0)) k
        = matmulSpec bRows (fun r j => A.get j r) (dget b) k i

/-- `_dot_csc_ndarray` (dense output) computes the product -/
def Statement_csc_nd_kernel_spec : Prop :=
  ∀ (aRows bRows bCols : Nat) (A : CSR) (b : DenseM), A.ColsIn aRows → ∀ r c, r < aRows → c < bCols →
    dget (dotCscNd aRows bRows bCols A b) r c = matmulSpec bRows (fun r j => A.get j r) (dget b) r c

/-- whenever `_dot_coo_ndarray` / `_dot_coo_ndarray_sparse` return, they return `s1 @ x2ᵀ` (rows of `s1` sorted, coordinates in range) -/
def Statement_coo_nd_kernel_spec : Prop :=
  ∀ (nRows n nCols : Nat) (es : List Ent) (x2 : DenseM) (fuel : Nat),
    (es.map (·.1)).Pairwise (· ≤ ·) → (∀ e ∈ es, e.1 < nRows ∧ e.2.1 < n) →
    (∀ out, dotCooNd nRows nCols es x2 fuel = some out → ∀ i k, i < nRows → k < nCols →
      dget out i k = matmulSpec n (cooGet es) (fun j c => dget x2 c j) i k) ∧
    (∀ ts, dotCooNdSparse nCols es x2 fuel = some ts → ∀ i k, i < nRows → k < nCols →
      lookupK (rowOfTriples ts i) k = matmulSpec n (cooGet es) (fun j c => dget x2 c j) i k)

/-- `_dot_ndarray_coo` computes `x1 @ s2`; `_dot_ndarray_coo_sparse` (handed the elements of `s2ᵀ`, sorted) as well -/
def Statement_nd_coo_kernel_spec : Prop :=
  ∀ (nRows n nCols : Nat) (x1 : DenseM) (es : List Ent), (∀ e ∈ es, e.1 < n ∧ e.2.1 < nCols) →
    (∀ i k, i < nRows → k < nCols → dget (dotNdCoo nRows nCols x1 es) i k = matmulSpec n (dget x1) (cooGet es) i k) ∧
    ((es.map (·.2.1)).Pairwise (· ≤ ·) → ∀ i k, i < nRows → k < nCols →
      lookupK (rowOfTriples (dotNdCooSparse nRows x1 (es.map fun e => (e.2.1, e.1, e.2.2))) i) k
        = matmulSpec n (dget x1) (cooGet es) i k)

/-- the region in which `_dot_coo_ndarray` / `_dot_coo_ndarray_sparse` do not return: the dense
operand has no column and the COO operand stores at least one element -/
def ExcludedCooNdZeroCols (nCols : Nat) (es : List Ent) : Bool := nCols == 0 && !es.isEmpty

/-- **coo_nd_terminates.** Under the guard `0 < n_cols ∨ nnz = 0` the outer `while` of
`_dot_coo_ndarray` makes progress in every iteration: `nnz + 1` units of fuel always suffice. -/
theorem coo_nd_terminates (nRows nCols : Nat) (es : List Ent) (x2 : DenseM) (h : 0 < nCols ∨ es = []) :
    ∃ r, dotCooNd nRows nCols es x2 (es.length + 1) = some r := by
  rcases h with h | h
  · exact cooNdRun_terminates nCols es x2 h _ 0 _ (by omega)
  · subst h; exact ⟨_, rfl⟩

/-- the same for `_dot_coo_ndarray_sparse` -/
theorem coo_nd_sparse_terminates (nCols : Nat) (es : List Ent) (x2 : DenseM) (h : 0 < nCols ∨ es = []) :
    ∃ r, dotCooNdSparse nCols es x2 (es.length + 1) = some r := by
  rcases h with h | h
  · exact cooNdSparseRun_terminates nCols es x2 h _ 0 _ (by omega)
  · subst h; exact ⟨_, rfl⟩

/-- "`_dot_coo_ndarray` and `_dot_coo_ndarray_sparse` return for every input" … -/
def Statement_coo_nd_always_returns : Prop :=
  ∀ (nRows nCols : Nat) (es : List Ent) (x2 : DenseM),
    (∃ fuel, dotCooNd nRows nCols es x2 fuel ≠ none) ∧ (∃ fuel, dotCooNdSparse nCols es x2 fuel ≠ none)

/-- … fails on the whole excluded region: no amount of fuel is enough (the outer index never advances). -/
theorem coo_nd_diverges (nRows : Nat) (es : List Ent) (x2 : DenseM) (h : ExcludedCooNdZeroCols 0 es = true) :
    (∀ fuel, dotCooNd nRows 0 es x2 fuel = none) ∧ (∀ fuel, dotCooNdSparse 0 es x2 fuel = none) := by
  have hl : 0 < es.length := by
    cases es with
    | nil => simp [ExcludedCooNdZeroCols] at h
    | cons _ _ => simp
  exact ⟨fun fuel => cooNdRun_zero_cols es x2 fuel 0 _ hl, fun fuel => cooNdSparseRun_zero_cols es x2 fuel 0 _ hl⟩

/-- the witness `sparse.dot(COO(eye(3)), zeros((3, 0)))`: the kernel is handed `x2 = zeros((0, 3))` -/
def eye3 : List Ent := [(0, 0, 1), (1, 1, 1), (2, 2, 1)]
theorem coo_nd_always_returns_counterexample : ¬ Statement_coo_nd_always_returns := by
  intro h
  obtain ⟨⟨fuel, hf⟩, _⟩ := h 3 0 eye3 []
  exact hf ((coo_nd_diverges 3 eye3 [] (by decide)).1 fuel)

/-- outside the excluded region both kernels return -/
theorem coo_nd_always_returns_partial (nRows nCols : Nat) (es : List Ent) (x2 : DenseM)
    (h : ExcludedCooNdZeroCols nCols es = false) :
    (∃ fuel, dotCooNd nRows nCols es x2 fuel ≠ none) ∧ (∃ fuel, dotCooNdSparse nCols es x2 fuel ≠ none) := by
  have hg : 0 < nCols ∨ es = [] := by
    cases es with
    | nil => exact Or.inr rfl
    | cons _ _ =>
      left
      simp [ExcludedCooNdZeroCols] at h
      omega
  obtain ⟨r1, h1⟩ := coo_nd_terminates nRows nCols es x2 hg
  obtain ⟨r2, h2⟩ := coo_nd_sparse_terminates nCols es x2 hg
  exact ⟨⟨_, h1 ▸ Option.some_ne_none r1⟩, ⟨_, h2 ▸ Option.some_ne_none r2⟩⟩

/-- non-vacuity: a 2-column case returns with the product `eye(3) @ [[1,2],[3,4],[5,6]]` (`x2` is its transpose) -/
example : dotCooNd 3 2 eye3 [[1, 3, 5], [2, 4, 6]] 4 = some [[1, 2], [3, 4], [5, 6]]
    ∧ ExcludedCooNdZeroCols 2 eye3 = false ∧ ExcludedCooNdZeroCols 0 eye3 = true := by decide

/-- "`_dot_csr_csr` never raises" … -/
def Statement_csr_csr_no_error : Prop := ∀ (nRow nCol : Nat) (A B : CSR), ∃ o, dotCsrCsr nRow nCol A B = .ok o

/-- … fails for a right operand without columns: the tail `len(indices) // n_col` divides by zero
(`GCXS(eye(3)) @ GCXS(zeros((3, 0)))` raises ZeroDivisionError). -/
theorem csr_csr_no_error_counterexample : ¬ Statement_csr_csr_no_error := by
  intro h
  obtain ⟨o, ho⟩ := h 3 0 { indptr := [0, 1, 2, 3], indices := [0, 1, 2], data := [1, 1, 1] }
    { indptr := [0, 0, 0, 0], indices := [], data := [] }
  have e : dotCsrCsr 3 0 { indptr := [0, 1, 2, 3], indices := [0, 1, 2], data := [1, 1, 1] }
    { indptr := [0, 0, 0, 0], indices := [], data := [] } = .error .zeroDiv := by rfl
  rw [e] at ho
  cases ho

/-- with at least one output column `_dot_csr_csr` returns -/
theorem csr_csr_no_error_partial (nRow nCol : Nat) (A B : CSR) (h : 0 < nCol) : ∃ o, dotCsrCsr nRow nCol A B = .ok o := by
  unfold dotCsrCsr
  simp only [Nat.ne_of_gt h, if_false]
  split <;> exact ⟨_, rfl⟩

/-- the `a.nbytes > b.nbytes` test of the GCXS·GCXS branch cannot influence the plan: `b` was already
converted to `a`'s compressed axes -/
theorem dot_dispatch_nbytes_irrelevant (ka kb : Kind) (cd : CA) (rt : RT) :
    dotDispatch ka kb cd true rt = dotDispatch ka kb cd false rt := by
  cases ka <;> cases kb <;> rfl

/-- The dispatch is a finite table: what the theorems below say about it is read off its evaluation
on all operand kinds, default axes and return types (the four lists enumerate `Kind`, `CA` and `RT`). -/
theorem dotDispatch_table :
    ∀ ka ∈ [Kind.coo, .gcxs .c0, .gcxs .c1, .nd], ∀ kb ∈ [Kind.coo, .gcxs .c0, .gcxs .c1, .nd], ∀ cd ∈ [CA.c0, .c1],
    ∀ rt ∈ [RT.none, .coo, .gcxs, .nd],
      (dotDispatch ka kb cd false rt).isSome = true ∧
      ∀ p ∈ dotDispatch ka kb cd false rt, (p.kernel.writesZeros = true → p.prune = true) ∧
        (ka.isSparse || kb.isSparse = true → rt ≠ .none → p.outKind = rt) := by
  decide +kernel

theorem dotDispatch_spec (ka kb : Kind) (cd : CA) (big : Bool) (rt : RT) :
    (dotDispatch ka kb cd big rt).isSome = true ∧
    ∀ p, dotDispatch ka kb cd big rt = some p → (p.kernel.writesZeros = true → p.prune = true) ∧
      (ka.isSparse || kb.isSparse = true → rt ≠ .none → p.outKind = rt) := by
  have : dotDispatch ka kb cd big rt = dotDispatch ka kb cd false rt := by
    cases big
    · rfl
    · exact dot_dispatch_nbytes_irrelevant ka kb cd rt
  rw [this]
  exact dotDispatch_table ka (by rcases ka with _ | ⟨_ | _⟩ | _ <;> decide) kb (by rcases kb with _ | ⟨_ | _⟩ | _ <;> decide)
    cd (by cases cd <;> decide) rt (by cases rt <;> decide)

/-- **dot_dispatch_total.** Every combination of operand kinds (COO, GCXS with either compressed
axis, ndarray) on either side, default compressed axis, size comparison and requested return type
reaches a kernel branch; the final `raise TypeError` is unreachable for these kinds. -/
theorem dot_dispatch_total (ka kb : Kind) (cd : CA) (big : Bool) (rt : RT) :
    (dotDispatch ka kb cd big rt).isSome = true :=
  (dotDispatch_spec ka kb cd big rt).1

/-- **dot_dispatch_return_type.** Whenever a return type is requested and at least one operand is
sparse, the plan ends in an array of that type. -/
theorem dot_dispatch_return_type (ka kb : Kind) (cd : CA) (big : Bool) (rt : RT) (p : Plan)
    (hs : ka.isSparse || kb.isSparse = true) (hrt : rt ≠ .none) (hp : dotDispatch ka kb cd big rt = some p) :
    p.outKind = rt :=
  ((dotDispatch_spec ka kb cd big rt).2 p hp).2 hs hrt

/-- every plan whose kernel writes sums without testing them asks the constructor to prune -/
theorem dot_dispatch_prunes (ka kb : Kind) (cd : CA) (big : Bool) (rt : RT) (p : Plan)
    (hp : dotDispatch ka kb cd big rt = some p) (hz : p.kernel.writesZeros = true) : p.prune = true :=
  ((dotDispatch_spec ka kb cd big rt).2 p hp).1 hz

/-- **transpose_trick.** The orientation `swapT` is sound: `(a @ b)[i,k] = (bᵀ @ aᵀ)[k,i]`. -/
theorem transpose_trick (n : Nat) (a b : Nat → Nat → Int) (i k : Nat) :
    matmulSpec n a b i k = matmulSpec n (tr b) (tr a) k i := by
  unfold matmulSpec tr
  congr 1
  apply List.map_congr_left
  intro j _
  exact Int.mul_comm _ _

/-- **tensordot_newaxes_perm.** For distinct, in-range contraction axes, `newaxes_a = notin + axes_a`
and `newaxes_b = axes_b + notin` are permutations of `range(ndim)`: the transposes before the
reshape-to-2-D move every axis exactly once. -/
theorem tensordot_newaxes_perm (nd : Nat) (axes : List Nat) (hnd : axes.Nodup) (hr : ∀ a ∈ axes, a < nd) :
    (newaxesA nd axes).Perm (List.range nd) ∧ (newaxesB nd axes).Perm (List.range nd) :=
  ⟨notin_append_perm nd axes hnd hr, List.perm_append_comm.trans (notin_append_perm nd axes hnd hr)⟩

/-- **tensordot_result_rank.** The result shape `olda + oldb` has rank `nda + ndb - 2·(number of
contracted axes)`. -/
theorem tensordot_result_rank (sa sb xa xb : List Nat) (ha : xa.Nodup) (hb : xb.Nodup)
    (hra : ∀ a ∈ xa, a < sa.length) (hrb : ∀ a ∈ xb, a < sb.length) :
    (tdShape sa sb xa xb).length + xa.length + xb.length = sa.length + sb.length := by
  have h1 := (notin_append_perm sa.length xa ha hra).length_eq
  have h2 := (notin_append_perm sb.length xb hb hrb).length_eq
  simp only [List.length_append, List.length_range] at h1 h2
  simp only [tdShape, List.length_append, List.length_map]
  omega

/-- **tensordot_n2_agree.** When the `equal` test passes, the inner dimension `N2` computed from `a`
equals the one computed from `b`: the two reshapes `(-1, N2)` and `(N2, -1)` fit together. -/
theorem tensordot_n2_agree (sa sb xa xb : List Nat) (h : tdAxesOk sa sb xa xb = true) : n2 sa xa = n2 sb xb := by
  unfold tdAxesOk at h
  simp only [Bool.and_eq_true, beq_iff_eq] at h
  exact n2_eq sa sb xa xb 1 h.1 h.2

example : newaxesA 4 [3, 1] = [0, 2, 3, 1] ∧ newaxesB 3 [0, 2] = [0, 2, 1]
    ∧ tdShape [2, 5, 3, 4] [4, 7, 5] [3, 1] [0, 2] = [2, 3, 7] ∧ tdAxesOk [2, 5, 3, 4] [4, 7, 5] [3, 1] [0, 2] = true := by decide

example : dotDispatch .nd (.gcxs .c0) .c0 false .coo
    = some { kernel := .cscNdSparse, orient := .swapT, resultCA := some .c0, prune := true, post := .tocoo } := by decide

end SparseV.C04
