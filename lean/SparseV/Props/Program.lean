/-
  The program theorems — property C06 ("every array any operation returns is canonical, whatever
  sequence of operations produced its inputs") and the "equals NumPy on the densified operands"
  part of C01/C02/C03/C05/C08/C09, for EVERY program over the modelled operations, by induction over
  the program.  Property theorems only; the per-operation step lemmas are in Lemmas/Prog*.lean.

  `evalModel e` runs program `e` through the models of the library (`Model/Expr.lean`), `evalSpec e`
  is its dense NumPy meaning.  Literal inputs are raw coordinate lists (any order, repeats, explicit
  fill-valued entries) that go through the constructor.
-/
import SparseV.Lemmas.ProgBase
import SparseV.Lemmas.ProgShape
import SparseV.Lemmas.ProgElem
import SparseV.Lemmas.ProgIndex
import SparseV.Lemmas.ProgReduce
import SparseV.Lemmas.ProgJoin
import SparseV.Lemmas.ProgMisc
namespace SparseV.Program
open SparseV SparseV.COO

/-- simulation for the member list of a join -/
def SimL (nf : Prop) (m : Except Err (COO Int × List (COO Int))) (s : Except Err (Dense × List Dense)) : Prop :=
  match m with
  | .ok p => (∀ y ∈ p.1 :: p.2, Good y) ∧ (nf → ∀ y ∈ p.1 :: p.2, y.NoFill) ∧
      ∃ q, s = .ok q ∧ Refines p.1 q.1 ∧ RefinesL p.2 q.2
  | .error e => s = .error e

theorem simL_iff {nf : Prop} {m : Except Err (COO Int × List (COO Int))} {s : Except Err (Dense × List Dense)} :
    SimL nf m s ↔ SimR (fun p q => (∀ y ∈ p.1 :: p.2, Good y) ∧ (nf → ∀ y ∈ p.1 :: p.2, y.NoFill) ∧
      Refines p.1 q.1 ∧ RefinesL p.2 q.2) m s := by
  cases m with
  | error e => exact Iff.rfl
  | ok p => exact ⟨fun ⟨hg, hn, q, hs, hr⟩ => ⟨q, hs, hg, hn, hr⟩, fun ⟨q, hs, hg, hn, hr⟩ => ⟨hg, hn, q, hs, hr⟩⟩

mutual
theorem sim_expr : ∀ e : Expr, Sim e.LeavesNoFill (evalModel e) (evalSpec e)
  | .lit shape es fill prune => lit_step shape es fill prune
  | .ew1 f a => (sim_expr a).bind (ew1_step f)
  | .ew2 f a b =>
    SimR.bind (sim_expr a) fun x dx ⟨hgx, hnx, hrx⟩ => SimR.bind (sim_expr b) fun y dy ⟨hgy, hny, hry⟩ =>
      (ew2_step f x y dx dy hgx hrx hgy hry).mono fun h => ⟨hnx h.1, hny h.2⟩
  | .broadcastTo a s => (sim_expr a).bind (broadcastTo_step s)
  | .transpose a axes => (sim_expr a).bind (transpose_step axes)
  | .reshape a s => (sim_expr a).bind (reshape_step s)
  | .flip a axes => (sim_expr a).bind (flip_step axes)
  | .roll a sh axes => (sim_expr a).bind (roll_step sh axes)
  | .squeeze a axes => (sim_expr a).bind (squeeze_step axes)
  | .expandDims a axis => (sim_expr a).bind (expandDims_step axis)
  | .getitem a idx => (sim_expr a).bind (getitem_step idx)
  | .reduce op a axes => (sim_expr a).bind (reduce_step op axes)
  | .concat xs axis =>
    SimR.bind (simL_iff.mp (sim_exprs xs)) fun p q ⟨hg, hn, hr0, hrr⟩ =>
      (concat_step axis p.1 p.2 q.1 q.2 hg hr0 hrr).mono hn
  | .stack xs axis =>
    SimR.bind (simL_iff.mp (sim_exprs xs)) fun p q ⟨hg, hn, hr0, hrr⟩ =>
      (stack_step axis p.1 p.2 q.1 q.2 hg hr0 hrr).mono hn
  | .triu a k => (sim_expr a).bind (tri_step true k)
  | .tril a k => (sim_expr a).bind (tri_step false k)
  | .diagonal a off a1 a2 => (sim_expr a).bind (diagonal_step off a1 a2)
  | .viaGcxs a c => (sim_expr a).bind (viaGcxs_step c)
  | .viaDok a => (sim_expr a).bind viaDok_step
theorem sim_exprs : ∀ es : Exprs, SimL es.LeavesNoFill (evalModels es) (evalSpecs es)
  | .one e =>
    simL_iff.mpr <| SimR.bind (sim_expr e) fun _ _ ⟨hg, hn, hr⟩ =>
      SimR.ok ⟨List.forall_mem_singleton.mpr hg, fun h => List.forall_mem_singleton.mpr (hn h), hr, .nil⟩
  | .cons e rest =>
    simL_iff.mpr <| SimR.bind (sim_expr e) fun _ _ ⟨hg, hn, hr⟩ =>
      SimR.bind (simL_iff.mp (sim_exprs rest)) fun _ _ ⟨hgp, hnp, hr0, hrr⟩ =>
        SimR.ok ⟨List.forall_mem_cons.mpr ⟨hg, hgp⟩, fun h => List.forall_mem_cons.mpr ⟨hn h.1, hnp h.2⟩,
          hr, .cons hr0 hrr⟩
end

/-- **program_canonical** (property C06 for arbitrary operation sequences).  Whatever program `e`
over the modelled operations is run — any nesting depth, any operation kinds, literal inputs with
coordinates in any order, with repeats and with explicit fill-valued entries — the array the model
of the library returns is in canonical form: every stored index inside the shape, stored indices
strictly increasing in row-major order (so: sorted and without repeats), and, if no literal input
stores a fill-valued entry after construction, no stored element equals the fill value. -/
theorem program_canonical (e : Expr) (x : COO Int) (h : evalModel e = .ok x) :
    x.WF ∧ SortedLin x.shape x.entries ∧ (e.LeavesNoFill → x.NoFill) := by
  have hs := sim_expr e
  rw [h] at hs
  obtain ⟨_, _, hg, hn, _⟩ := hs
  exact ⟨hg.wf, hg.sorted, hn⟩

/-- **program_refines** ("equals NumPy on the densified operands", for arbitrary operation
sequences).  If the model run of program `e` returns `x`, the dense reference semantics returns a
dense array of the same shape that `x` denotes: the same value at every in-bounds index, and the
fill value the properties prescribe. -/
theorem program_refines (e : Expr) (x : COO Int) (h : evalModel e = .ok x) :
    ∃ d, evalSpec e = .ok d ∧ x.shape = d.shape ∧ x.fill = d.fill ∧ ∀ i, InB i x.shape → x.get i = d.val i := by
  have hs := sim_expr e
  rw [h] at hs
  obtain ⟨d, hd, _, _, hr⟩ := hs
  exact ⟨d, hd, hr.shape, hr.fill, hr.val⟩

/-- **program_errors.** The model run of a program fails with error class `err` exactly when the
reference semantics does: the library raises where (and what) NumPy / the documented contract
raises, at the first failing step in evaluation order, and nowhere else. -/
theorem program_errors (e : Expr) (err : Err) : evalModel e = .error err ↔ evalSpec e = .error err :=
  (sim_expr e).error_iff err

theorem litNoFill_of_prune (shape : List Nat) (es : List (Idx × Int)) (fill : Int) :
    litNoFill shape es fill true := by
  intro e he
  unfold COO.build at he
  simp only [Bool.false_eq_true, if_false, if_true] at he ⊢
  exact C06.nofill_prune _ _ e he

mutual
/-- every literal input is built with `prune=True` -/
def AllPruned : Expr → Prop
  | .lit _ _ _ prune => prune = true
  | .ew1 _ a => AllPruned a
  | .ew2 _ a b => AllPruned a ∧ AllPruned b
  | .broadcastTo a _ => AllPruned a
  | .transpose a _ => AllPruned a
  | .reshape a _ => AllPruned a
  | .flip a _ => AllPruned a
  | .roll a _ _ => AllPruned a
  | .squeeze a _ => AllPruned a
  | .expandDims a _ => AllPruned a
  | .getitem a _ => AllPruned a
  | .reduce _ a _ => AllPruned a
  | .concat xs _ => AllPrunedL xs
  | .stack xs _ => AllPrunedL xs
  | .triu a _ => AllPruned a
  | .tril a _ => AllPruned a
  | .diagonal a _ _ _ => AllPruned a
  | .viaGcxs a _ => AllPruned a
  | .viaDok a => AllPruned a
def AllPrunedL : Exprs → Prop
  | .one e => AllPruned e
  | .cons e rest => AllPruned e ∧ AllPrunedL rest
end

mutual
theorem leavesNoFill_of_allPruned : ∀ e : Expr, AllPruned e → e.LeavesNoFill
  | .lit shape es fill _, h => h ▸ litNoFill_of_prune shape es fill
  | .ew1 _ a, h => leavesNoFill_of_allPruned a h
  | .ew2 _ a b, h => ⟨leavesNoFill_of_allPruned a h.1, leavesNoFill_of_allPruned b h.2⟩
  | .broadcastTo a _, h => leavesNoFill_of_allPruned a h
  | .transpose a _, h => leavesNoFill_of_allPruned a h
  | .reshape a _, h => leavesNoFill_of_allPruned a h
  | .flip a _, h => leavesNoFill_of_allPruned a h
  | .roll a _ _, h => leavesNoFill_of_allPruned a h
  | .squeeze a _, h => leavesNoFill_of_allPruned a h
  | .expandDims a _, h => leavesNoFill_of_allPruned a h
  | .getitem a _, h => leavesNoFill_of_allPruned a h
  | .reduce _ a _, h => leavesNoFill_of_allPruned a h
  | .concat xs _, h => leavesNoFillL_of_allPruned xs h
  | .stack xs _, h => leavesNoFillL_of_allPruned xs h
  | .triu a _, h => leavesNoFill_of_allPruned a h
  | .tril a _, h => leavesNoFill_of_allPruned a h
  | .diagonal a _ _ _, h => leavesNoFill_of_allPruned a h
  | .viaGcxs a _, h => leavesNoFill_of_allPruned a h
  | .viaDok a, h => leavesNoFill_of_allPruned a h
theorem leavesNoFillL_of_allPruned : ∀ es : Exprs, AllPrunedL es → es.LeavesNoFill
  | .one e, h => leavesNoFill_of_allPruned e h
  | .cons e rest, h => ⟨leavesNoFill_of_allPruned e h.1, leavesNoFillL_of_allPruned rest h.2⟩
end

/-- **program_canonical_pruned.** With every literal input built with `prune=True` (so that the
inputs store no fill-valued entry), the full canonical form — in range, sorted without repeats, and
NO stored element equal to the fill value — holds for the result of every program, unconditionally. -/
theorem program_canonical_pruned (e : Expr) (x : COO Int) (hp : AllPruned e) (h : evalModel e = .ok x) :
    x.WF ∧ SortedLin x.shape x.entries ∧ x.NoFill := by
  obtain ⟨h1, h2, h3⟩ := program_canonical e x h
  exact ⟨h1, h2, h3 (leavesNoFill_of_allPruned e hp)⟩

/-- a literal input with coordinates out of order, a repeated coordinate (`[1,2]`: 7 + -3) and an
explicit entry equal to the fill value (`[0,0] ↦ 1`, fill 1) -/
def exLit : Expr := .lit [2, 3] [([1, 2], 7), ([0, 1], 5), ([1, 2], -3), ([0, 0], 1)] 1 false

/-- depth 4, six operation kinds:
`(x[::-1, None].transpose((2,0,1)) + expand_dims(x.asformat("gcxs", compressed_axes=[1]).asformat("coo"), 0)).sum(axis=0)` -/
def exProg : Expr :=
  .reduce .add (.ew2 (· + ·) (.transpose (.getitem exLit [.slice none none (some (-1)), .newaxis]) [2, 0, 1])
     (.expandDims (.viaGcxs exLit (some [1])) 0)) (some [0])

example : exProg.depth = 4 := by decide

/-- a run checked by kernel evaluation: it succeeds and its result passes the Boolean test `p` -/
theorem ok_of_check {α : Type} {m : Except Err α} {p : α → Bool}
    (h : (match m with | .ok x => p x | .error _ => false) = true) : ∃ x, m = .ok x ∧ p x = true := by
  cases m with
  | error e => cases h
  | ok x => exact ⟨x, rfl, h⟩

/-- the model evaluates it to an array of shape `(2, 3)` with fill value `(1 + 1) * 3` (kernel
computation through the validation, broadcasting and shape logic of every step; the stored entries
go through `mergeSort`, which the kernel does not unfold — the theorems below speak about them) -/
theorem exProg_ok : ∃ x, evalModel exProg = .ok x ∧ x.shape = [2, 3] ∧ x.fill = 6 := by
  obtain ⟨x, hx, hp⟩ := ok_of_check (m := evalModel exProg) (p := fun x => decide (x.shape = [2, 3] ∧ x.fill = 6))
    (by decide)
  exact ⟨x, hx, of_decide_eq_true hp⟩

/-- the reference semantics computes NumPy's values: `[[9, 21, 9], [10, 10, 19]]` -/
theorem exProg_spec : ∃ d, evalSpec exProg = .ok d ∧
    (allIdx [2, 3]).map d.val = [9, 21, 9, 10, 10, 19] := by
  obtain ⟨d, hd, hp⟩ := ok_of_check (m := evalSpec exProg)
    (p := fun d => decide ((allIdx [2, 3]).map d.val = [9, 21, 9, 10, 10, 19])) (by decide +kernel)
  exact ⟨d, hd, of_decide_eq_true hp⟩

/-- … so the theorems apply with their hypothesis satisfied: the returned array is canonical and
holds NumPy's values (its dense listing is the reference's) -/
example : ∃ x, evalModel exProg = .ok x ∧ x.WF ∧ SortedLin x.shape x.entries ∧
    x.todense = [9, 21, 9, 10, 10, 19] := by
  obtain ⟨x, hx, hshape, _⟩ := exProg_ok
  obtain ⟨d', hd', hvals⟩ := exProg_spec
  obtain ⟨hwf, hs, _⟩ := program_canonical exProg x hx
  obtain ⟨d, hd, _, _, h3⟩ := program_refines exProg x hx
  have : d' = d := Except.ok.inj (hd'.symm.trans hd)
  subst this
  refine ⟨x, hx, hwf, hs, ?_⟩
  unfold COO.todense
  rw [← hvals, hshape]
  apply List.map_congr_left
  intro i hi
  exact h3 i (by rw [hshape]; exact mem_allIdx.mp hi)

/-- the concatenation of a literal (a repeated coordinate summing to the fill value, an explicit fill-valued entry) with
the flip along both axes of another: `LeavesNoFill` is satisfiable (all literals built with `prune=True`) and gives the
`NoFill` conclusion -/
def exPruned : Expr :=
  .concat (.cons (.lit [2, 2] [([1, 1], 0), ([0, 1], 5), ([0, 1], -5), ([1, 0], 2)] 0 true)
    (.one (.flip (.lit [2, 2] [([1, 1], 3), ([0, 0], 0)] 0 true) [0, -1]))) 1

example : exPruned.LeavesNoFill :=
  ⟨litNoFill_of_prune _ _ _, litNoFill_of_prune _ _ _⟩

example : ∃ x, evalModel exPruned = .ok x ∧ x.shape = [2, 4] ∧ x.NoFill := by
  obtain ⟨x, hx, hp⟩ := ok_of_check (m := evalModel exPruned) (p := fun x => decide (x.shape = [2, 4]))
    (by decide)
  exact ⟨x, hx, of_decide_eq_true hp,
    (program_canonical exPruned x hx).2.2 ⟨litNoFill_of_prune _ _ _, litNoFill_of_prune _ _ _⟩⟩

/-- an error program: the reshape in the middle fails (`ValueError`), and so does the reference -/
def exErr : Expr := .ew1 (fun v => v + 1) (.reshape (.tril exLit 0) [4, 2])

example : evalModel exErr = .error .value ∧ evalSpec exErr = .error .value := by
  have h : (match evalModel exErr with | .error e => decide (e = Err.value) | .ok _ => false) = true := by
    decide
  have hm : evalModel exErr = .error .value := by
    cases hm : evalModel exErr with
    | ok x => rw [hm] at h; cases h
    | error e => rw [hm] at h; rw [of_decide_eq_true h]
  exact ⟨hm, (program_errors exErr .value).mp hm⟩

end SparseV.Program
