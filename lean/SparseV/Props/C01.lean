/-
  Property C01 — element-wise operations and broadcasting.  Property theorems only.
  `Gen.bcastOk`/`Gen.bcastDim` are GENERATED from `_umath._get_broadcast_shape`.
-/
import SparseV.Model.Elemwise
import SparseV.Lemmas.Elemwise2
import SparseV.Lemmas.ElemwiseN
import SparseV.Lemmas.BroadcastSorted
import SparseV.Lemmas.Gen.Bcast
namespace SparseV.C01
open SparseV

/-- NumPy's broadcasting rule for one pair of extents (right-aligned): equal, or one of them is 1 -/
def specPair (l1 l2 : Int) : Option Int :=
  if l1 = l2 then some l1 else if l1 = 1 then some l2 else if l2 = 1 then some l1 else none

/-- **bcast_pair_spec.** The generated per-pair rule accepts a pair of extents exactly when NumPy's
rule has a result, and then yields that result. -/
theorem bcast_pair_spec (l1 l2 : Int) :
    (Gen.bcastOk l1 l2 false = true ↔ (specPair l1 l2).isSome) ∧
    (Gen.bcastOk l1 l2 false = true → specPair l1 l2 = some (Gen.bcastDim l1 l2)) := by
  simp only [Gen.bcastOk_iff, Gen.bcastDim_eq, Ref.bcastDim, specPair]
  -- both rules test `l1 = l2`, `l1 = 1`, `l2 = 1` in this order
  split
  · simp_all
  · split <;> simp_all

/-- **bcast_result_rule.** With `is_result=True` (used by `broadcast_to`) the target extent may
not be stretched: accepted iff the operand extent equals the target's or is 1. -/
theorem bcast_result_rule (l1 l2 : Int) :
    Gen.bcastOk l1 l2 true = true ↔ (l1 = l2 ∨ l1 = 1) := by
  simp [Gen.bcastOk_iff]

/-- **elemwise2_get.** The matched / unmatched mask algorithm computes the function element-wise:
for ANY scalar function `f`, any fill values, any storage order, two operands with distinct stored
indices — at every index `i` the result (with fill `f fa fb`) holds `f` of the operands' values at `i`.
Entries whose value equals the result fill are dropped (so a `NoFill` result), which never changes a lookup. -/
theorem elemwise2_get {α β γ : Type} [DecidableEq γ] (f : α → β → γ) (A : List (Idx × α)) (fa : α)
    (B : List (Idx × β)) (fb : β) (hA : (COO.keysOf A).Nodup) (hB : (COO.keysOf B).Nodup) (i : Idx) :
    COO.lookup (COO.elemwise2 f A fa B fb) (f fa fb) i = f (COO.lookup A fa i) (COO.lookup B fb i) := by
  by_cases hex : i ∈ COO.keysOf (COO.elemwise2 f A fa B fb)
  · refine COO.lookup_eq_of_forall (fun e he hi => ?_) hex
    rw [← hi]
    exact COO.pieces_val f fa fb hA hB e (List.mem_filter.mp he).1
  · rw [COO.lookup_of_not_mem hex]
    by_cases hk : i ∈ COO.keysOf A ∨ i ∈ COO.keysOf B
    · -- the entry for `i` is not kept: its value is the fill
      obtain ⟨e, he, rfl⟩ := List.mem_map.mp (COO.pieces_keys f fa fb hk)
      rw [← COO.pieces_val f fa fb hA hB e he]
      apply Decidable.byContradiction
      intro hne
      exact hex (List.mem_map.mpr ⟨e, List.mem_filter.mpr ⟨he, by simpa using Ne.symm hne⟩, rfl⟩)
    · rw [COO.lookup_of_not_mem fun h => hk (Or.inl h), COO.lookup_of_not_mem fun h => hk (Or.inr h)]

/-- the result never stores its own fill value -/
theorem elemwise2_nofill {α β γ : Type} [DecidableEq γ] (f : α → β → γ) (A : List (Idx × α)) (fa : α)
    (B : List (Idx × β)) (fb : β) : ∀ e ∈ COO.elemwise2 f A fa B fb, e.2 ≠ f fa fb := by
  intro e he
  unfold COO.elemwise2 at he
  rw [List.mem_filter] at he
  simpa using he.2

/-- non-vacuity: overlapping and disjoint stored positions, nonzero fills, a cancelling sum -/
example : COO.elemwise2 (fun a b : Int => a + b) [([0], 5), ([2], 1)] 1 [([2], 0), ([3], 4)] 0
    = [([0], 5), ([3], 5)] := by decide

/-- NumPy's `broadcast_shapes(s1, s2)` stated directly: right-align the shapes, pad the shorter one
on the left with 1s, combine the aligned extents with `specPair`; `none` if some pair is incompatible. -/
def specBshape (s1 s2 : List Nat) : Option (List Nat) := specBshapeWith specPair s1 s2

/-- **bshape2_spec.** `_get_broadcast_shape(s1, s2)` (the generated per-pair rule `Gen.bcastOk` /
`Gen.bcastDim` under the `zip` / `zip_longest` of the code) is NumPy's rule for ALL shapes of any rank:
it returns NumPy's broadcast shape when there is one and raises `ValueError` otherwise.  The per-pair
step is `bcast_pair_spec`. -/
theorem bshape2_spec (s1 s2 : List Nat) :
    bshape2 s1 s2 false = (match specBshape s1 s2 with | some r => .ok r | none => .error .value) :=
  bshape2_eq_spec specPair bcast_pair_spec s1 s2

example : specBshape [2, 1, 3] [4, 1] = some [2, 4, 3] := by decide
example : specBshape [5, 0] [1] = some [5, 0] := by decide
example : specBshape [2, 3] [4] = none := by decide

/-- NumPy's `broadcast_to(x, t).shape` for an operand of shape `s`: the operand may not have more
axes than the target, and every aligned operand extent equals the target's or is 1. -/
def specBroadcastTo (s t : List Nat) : Option (List Nat) :=
  if s.length ≤ t.length ∧ ((List.zip (padL t.length s) t).all fun p => decide (p.1 = p.2 ∨ p.1 = 1)) = true
  then some t else none

/-- **bshape2_result_exact.** What the code does with `is_result=True`, for all shapes: an operand
with more axes than the result shape is rejected by the rank guard; otherwise every aligned pair
(the `zip` then covers the whole operand) must have the operand extent equal to the target's or 1,
and the result is the target shape itself. -/
theorem bshape2_result_exact (s t : List Nat) :
    bshape2 s t true =
      if s.length ≤ t.length ∧ ((List.zip s.reverse t.reverse).all fun p => decide (p.1 = p.2 ∨ p.1 = 1)) = true
      then .ok t else .error .value :=
  bshape2_true_eq_ite (bcTo_iff_zip s t)

/-- **bshape2_result_spec.** With `is_result=True` (the call made by `broadcast_to`) the code is
NumPy's `broadcast_to` rule for ALL shapes: the target shape when the operand has no more axes than
the target and every aligned operand extent equals the target's or is 1, `ValueError` otherwise. -/
theorem bshape2_result_spec (s t : List Nat) :
    bshape2 s t true = (match specBroadcastTo s t with | some r => .ok r | none => .error .value) := by
  rw [bshape2_true_eq_ite (bcTo_iff_padL s t), specBroadcastTo]
  split <;> rfl

theorem bshape2_of_specBroadcastTo {s t : List Nat} (h : specBroadcastTo s t = some t) :
    bshape2 s t true = .ok t := by
  rw [bshape2_result_spec, h]

/-- an operand with more axes than the target (operand `(2,3)`, target `(3,)`: accepted by the code until /repo 13786a7)
is rejected, as NumPy does; so is a stretched target extent -/
example : bshape2 [2, 3] [3] true = .error .value ∧ specBroadcastTo [2, 3] [3] = none ∧
    bshape2 [3, 1] [4] true = .error .value ∧ bshape2 [3] [1] true = .error .value := ⟨by rfl, by decide, by rfl, by rfl⟩
example : bshape2 [1, 3] [2, 2, 3] true = .ok [2, 2, 3] ∧ specBroadcastTo [1, 3] [2, 2, 3] = some [2, 2, 3] :=
  ⟨by rfl, by decide⟩

/-- **bshapeN_spec.** `_get_nary_broadcast_shape` — the left fold of the pairwise rule over any
number of shapes — is NumPy's n-ary rule `specBshapeN`: pad every shape on the left with 1s to the
largest rank; it succeeds iff at every axis the extents are pairwise equal-or-1 (`ColOk`), and the
result extent is then the one that is not 1.  Otherwise `ValueError`. -/
theorem bshapeN_spec (shapes : List (List Nat)) :
    bshapeN shapes = (match specBshapeN shapes with | some r => .ok r | none => .error .value) := by
  have hall : (((List.range (bcRank shapes)).map (colAt shapes)).reverse.all fun c => decide (ColOk c)) = true ↔
      ∀ k, ColOk (colAt shapes k) := by
    rw [List.all_reverse, List.all_map, List.all_eq_true]
    simp only [List.mem_range, Function.comp, decide_eq_true_eq]
    exact forall_lt_iff_of_ge fun k hk a ha _ _ => Or.inr (Or.inl (colAt_ge hk a ha))
  unfold specBshapeN
  simp only [padCols_eq]
  by_cases h : ∀ k, ColOk (colAt shapes k)
  · rw [if_pos (hall.mpr h), bshapeN_of_ok h, List.map_reverse, List.map_map]
    rfl
  · rw [if_neg (mt hall.mp h), bshapeN_of_not_ok h]

/-- **bshapeN_order_irrelevant.** The n-ary result (shape or error) does not depend on the order of
the operands: the pairwise rule is associative and commutative wherever it is defined. -/
theorem bshapeN_order_irrelevant {l l' : List (List Nat)} (h : l.Perm l') : bshapeN l = bshapeN l' :=
  bshapeN_perm h

/-- **bshape2_comm.** The pairwise rule is commutative: same shape, or `ValueError` both ways. -/
theorem bshape2_comm (s1 s2 : List Nat) : bshape2 s1 s2 false = bshape2 s2 s1 false := by
  rw [← bshapeN_pair s2 s1, ← bshapeN_pair s1 s2]
  exact bshapeN_perm (List.Perm.swap _ _ _)

/-- **bshape2_assoc.** The pairwise rule is associative, errors included: broadcasting `a` with `b`
and then with `c` is broadcasting `a` with the broadcast of `b` and `c`. -/
theorem bshape2_assoc (a b c : List Nat) :
    (bshape2 a b false >>= fun ab => bshape2 ab c false) =
      (bshape2 b c false >>= fun bc => bshape2 a bc false) := by
  have h1 : bshapeN [b, a, c] = (bshape2 a b false >>= fun ab => bshape2 ab c false) := by
    rw [bshapeN_triple]
    congr 1
    funext ab
    exact bshape2_comm c ab
  rw [← h1, ← bshapeN_triple c b a]
  -- [b, a, c] ~ [c, b, a]
  exact bshapeN_perm ((List.Perm.cons b (List.Perm.swap c a [])).trans (List.Perm.swap c b [a]))

theorem bshapeN_single (s : List Nat) : bshapeN [s] = .ok s := by
  rw [bshapeN_of_ok (shapes := [s]) fun k => colOk_singleton _, nDims_single]

/-- **bshapeN_error_iff.** The fold fails — always with `ValueError` — exactly when at some axis
(counted from the right, shapes padded with 1s) two operands have different extents neither of which is 1. -/
theorem bshapeN_error_iff (shapes : List (List Nat)) (e : Err) :
    bshapeN shapes = .error e ↔
      e = .value ∧ ∃ k, ∃ s ∈ shapes, ∃ t ∈ shapes, ext s k ≠ ext t k ∧ ext s k ≠ 1 ∧ ext t k ≠ 1 := by
  rw [bshapeN_error_iff_colOk]
  simp only [colOk_colAt_iff, Classical.not_forall, not_or, exists_prop, ne_eq]

example : bshapeN [[3, 1], [2, 1, 4], [], [1]] = .ok [2, 3, 4] := by rfl
example : specBshapeN [[3, 1], [2, 1, 4], [], [1]] = some [2, 3, 4] := by decide
example : bshapeN [[3, 1], [2, 4], [2, 1, 4]] = .error .value := by rfl

/-- **expand_mem.** The entries of the expansion, characterised: for an operand (shape `src`, stored
indices in range) that broadcasts to `dst`, `(j, v)` is emitted iff `j` is an in-range index of `dst`
and the operand stores `v` at the index `j` reads under broadcasting.  Every stored entry is
replicated exactly over the broadcast axes, nothing else is emitted. -/
theorem expand_mem {α : Type} (es : List (Idx × α)) (src dst : List Nat)
    (hb : specBroadcastTo src dst = some dst) (hwf : ∀ e ∈ es, InB e.1 src) (j : Idx) (v : α) :
    (j, v) ∈ COO.expand es src dst ↔ InB j dst ∧ (projIdx src dst j, v) ∈ es :=
  COO.mem_expand (bcTo_of_bshape2 (bshape2_of_specBroadcastTo hb)) hwf j v

/-- **expand_nodup.** … and each result index is emitted once (no duplicates: the
`has_duplicates=False` that `broadcast_to` passes to the constructor is justified). -/
theorem expand_nodup {α : Type} (es : List (Idx × α)) (src dst : List Nat)
    (hb : specBroadcastTo src dst = some dst) (hwf : ∀ e ∈ es, InB e.1 src) (hnd : (COO.keysOf es).Nodup) :
    (COO.keysOf (COO.expand es src dst)).Nodup :=
  COO.nodup_expand (bcTo_of_bshape2 (bshape2_of_specBroadcastTo hb)) hwf hnd

/-- **broadcastTo_get.** `broadcast_to(x, s)` for every target `s` NumPy admits: the result
has shape `s`, the operand's fill value, in-range distinct stored indices, and at every index `j` of
`s` holds the operand's value at the projected index (extent-1 axes read coordinate 0, extra leading
axes are dropped) — NumPy's `broadcast_to`. -/
theorem broadcastTo_get {α : Type} (x : COO α) (s : List Nat) (hwf : x.WF) (hnd : x.keys.Nodup)
    (h : specBroadcastTo x.shape s = some s) :
    ∃ r, x.broadcastTo s = .ok r ∧ r.shape = s ∧ r.fill = x.fill ∧ r.WF ∧ r.keys.Nodup ∧
      ∀ j, InB j s → r.get j = x.get (projIdx x.shape s j) :=
  COO.broadcastTo_spec x s hwf hnd (bshape2_of_specBroadcastTo h)

/-- **broadcastTo_error.** … and for every target NumPy rejects (a stretched target extent, an
incompatible pair, or an operand with more axes than the target) `broadcast_to` raises `ValueError`. -/
theorem broadcastTo_error {α : Type} (x : COO α) (s : List Nat) (h : specBroadcastTo x.shape s = none) :
    x.broadcastTo s = .error .value := by
  have hb : bshape2 x.shape s true = .error .value := by rw [bshape2_result_spec, h]
  have hne : s ≠ x.shape := by
    intro hs
    subst hs
    rw [bshape2_of_ok ((bOk_true_iff _ _).mpr (bcTo_iff.mpr ⟨Nat.le_refl _, fun k => Or.inl rfl⟩))] at hb
    cases hb
  unfold COO.broadcastTo
  rw [if_neg hne, hb]

/-- at the array level: a `(2,3)` array broadcast to `(3,)` is rejected -/
example : COO.broadcastTo (⟨[2, 3], [([0, 1], (5 : Int))], 0⟩ : COO Int) [3] = .error .value :=
  broadcastTo_error _ _ (by decide)

/-- **broadcastTo_sorted_promise.** The `sorted=` claim: when `broadcast_to` computes
`sorted = True` (the non-broadcast axes are adjacent, `expandSorted`) and the operand's entries are in
canonical order, the expansion is ALREADY in canonical order of the target shape — the constructor,
which then skips `_sort_indices`, receives what it was promised. -/
theorem broadcastTo_sorted_promise {α : Type} (x : COO α) (s : List Nat) (hwf : x.WF)
    (hs : COO.SortedLin x.shape x.entries) (h : specBroadcastTo x.shape s = some s)
    (hadj : COO.expandSorted x.shape s = true) :
    COO.SortedLin s (COO.expand x.entries x.shape s) ∧
    ∃ r, x.broadcastTo s = .ok r ∧ COO.SortedLin s r.entries ∧
      (s ≠ x.shape → r.entries = COO.expand x.entries x.shape s) := by
  have h := bshape2_of_specBroadcastTo h
  have hsorted := COO.expand_sortedLin (bcTo_of_bshape2 h) hwf hs hadj
  refine ⟨hsorted, ?_⟩
  unfold COO.broadcastTo
  by_cases hsx : s = x.shape
  · rw [if_pos hsx]
    exact ⟨x, rfl, hsx ▸ hs, fun hne => absurd hsx hne⟩
  · rw [if_neg hsx, h]
    simp only [hadj, if_true]
    exact ⟨_, rfl, hsorted, fun _ => rfl⟩

/-- the claim without the adjacency condition -/
def Statement_expand_sorted_unconditionally : Prop :=
  ∀ (es : List (Idx × Int)) (src dst : List Nat), specBroadcastTo src dst = some dst →
    (∀ e ∈ es, InB e.1 src) → COO.SortedLin src es → COO.SortedLin dst (COO.expand es src dst)

/-- **expand_sorted_needs_adjacency.** The condition is needed: with parameters
`[True, False, True]` (shape `(2,1,2)` to `(2,3,2)`) two entries in canonical order are expanded to
linear locations `0,2,4,1,3,5` — and `expandSorted` is `false` there, so the code sorts. -/
theorem expand_sorted_needs_adjacency : ¬ Statement_expand_sorted_unconditionally ∧
    COO.expandSorted [2, 1, 2] [2, 3, 2] = false ∧
    COO.lin [2, 3, 2] (COO.expand [([0, 0, 0], (5 : Int)), ([0, 0, 1], 7)] [2, 1, 2] [2, 3, 2]) = [0, 2, 4, 1, 3, 5] := by
  refine ⟨?_, by decide, by decide⟩
  intro h
  have := h [([0, 0, 0], 5), ([0, 0, 1], 7)] [2, 1, 2] [2, 3, 2] (by decide) (by decide) (by decide)
  revert this
  decide

/-- non-vacuity: a leading new axis and a stretched interior axis; stored positions 0 and 2 of the last axis -/
example : COO.expand [([0, 0], (5 : Int)), ([0, 2], 7)] [1, 3] [2, 2, 3] =
    [([0, 0, 0], 5), ([0, 0, 2], 7), ([0, 1, 0], 5), ([0, 1, 2], 7),
     ([1, 0, 0], 5), ([1, 0, 2], 7), ([1, 1, 0], 5), ([1, 1, 2], 7)] := by decide
example : specBroadcastTo [1, 3] [2, 2, 3] = some [2, 2, 3] ∧ COO.expandSorted [1, 3] [2, 2, 3] = true ∧
    COO.SortedLin [1, 3] [([0, 0], (5 : Int)), ([0, 2], 7)] := by decide

/-- **elemwiseN_get.** The sparse result of `_Elemwise` for ANY arity and ANY function `f` of the
operands' values: operands are COO arrays (stored indices in range and distinct), dense arrays and
scalars.  If the model returns a sparse array `r` then
* `r.shape` is the n-ary broadcast shape of the operands' shapes;
* `r.fill` is `f` applied to the sparse operands' fill values, the scalars and the dense operands'
  values — at ANY position of the dense operands' common shape (the decision found them all equal);
* at every index `j` of the result, `r.get j` is `f` applied to the operands' values at `j` under broadcasting;
* no stored value equals the fill value, stored indices are in range, distinct and in canonical order. -/
theorem elemwiseN_get {α : Type} [Inhabited α] [DecidableEq α] (f : List α → α) (ops : List (Operand α))
    (hwf : ∀ o ∈ ops, o.WF) (r : COO α) (h : elemwiseN f ops = .ok (.sparse r)) :
    bshapeN (ops.map Operand.shape) = .ok r.shape ∧
    (∃ ndShape, bshapeN ((ops.filter Operand.isDense).map Operand.shape) = .ok ndShape ∧
      ∀ i, InB i ndShape → r.fill = f (ops.map fun o => o.fillAt ndShape i)) ∧
    (∀ j, InB j r.shape → r.get j = f (ops.map fun o => o.valueAt r.shape j)) ∧
    r.NoFill ∧ r.WF ∧ r.keys.Nodup ∧ COO.SortedLin r.shape r.entries := by
  cases hc : ops.any Operand.isCoo with
  | false => rw [elemwiseN_no_coo f ops hc] at h; cases h
  | true =>
    cases hs : bshapeN (ops.map Operand.shape) with
    | error e => rw [elemwiseN_shape_err f ops e hc hs] at h; cases h
    | ok shape =>
      obtain ⟨nd, hn⟩ : ∃ nd, bshapeN ((ops.filter Operand.isDense).map Operand.shape) = .ok nd :=
        ⟨_, bshapeN_sub_ok hs (denseShapes_sub ops)⟩
      by_cases hconst : FillConst f ops nd
      · rw [elemwiseN_sparse_eq f ops shape nd hwf hc hs hn hconst] at h
        cases h
        dsimp only
        have hnd := nodup_entriesOf f ops shape (fillOf f ops nd)
        have hwfE := wf_entriesOf f ops shape (fillOf f ops nd) hwf hs
        refine ⟨rfl, ⟨nd, hn, fun i hi => fillOf_eq f ops nd hconst hi⟩, ?_, ?_, ?_, ?_, ?_⟩
        · intro j hj
          show COO.lookup _ _ j = _
          rw [COO.lookup_sortEntries _ _ _ _ hnd]
          exact lookup_entriesOf f ops shape nd hwf hs hn hconst hj
        · intro e he
          exact (mem_entriesOf.mp (COO.mem_sortEntries.mp he)).2.2
        · intro e he
          exact hwfE e (COO.mem_sortEntries.mp he)
        · exact COO.nodup_sortEntries _ _ hnd
        · exact COO.sortedLin_of_le_nodup _ _ (COO.sortEntries_sortedLe _ _) (COO.nodup_sortEntries _ _ hnd)
            (fun e he => hwfE e (COO.mem_sortEntries.mp he))
      · rw [elemwiseN_eq f ops shape nd hc hs hn, if_neg (mt (fillArr_all_iff f ops nd).mp hconst)] at h
        split at h <;> cases h

/-- without dense operands the fill value is `f` of the fill values (and scalars) -/
theorem elemwiseN_fill_nodense {α : Type} [Inhabited α] [DecidableEq α] (f : List α → α) (ops : List (Operand α))
    (hwf : ∀ o ∈ ops, o.WF) (hnd : ops.filter Operand.isDense = []) (r : COO α)
    (h : elemwiseN f ops = .ok (.sparse r)) :
    r.fill = f (ops.map fun o => o.fillAt [] []) := by
  obtain ⟨_, ⟨nd, h1, h2⟩, _⟩ := elemwiseN_get f ops hwf r h
  rw [hnd] at h1
  have : nd = [] := (Except.ok.inj (show bshapeN [] = .ok nd from h1)).symm
  subst this
  exact h2 [] trivial

/-- **elemwise_decision.** The three-way result kind, for operands with at least one sparse one and
broadcastable shapes (`shape` the broadcast shape of all operands, `ndShape` that of the dense ones):
* if `f` of the fill values and the dense operands' values is the same at every position
  (`FillConst`: a sparse result exists) the result is sparse, of shape `shape`;
* otherwise, if the dense operands already have the full result shape, the result is the dense array
  holding `f` of the operands' values at every index;
* otherwise `ValueError`. -/
theorem elemwise_decision {α : Type} [Inhabited α] [DecidableEq α] (f : List α → α) (ops : List (Operand α))
    (shape ndShape : List Nat) (hc : ops.any Operand.isCoo = true)
    (hs : bshapeN (ops.map Operand.shape) = .ok shape)
    (hn : bshapeN ((ops.filter Operand.isDense).map Operand.shape) = .ok ndShape) :
    (FillConst f ops ndShape → ∃ r, elemwiseN f ops = .ok (.sparse r) ∧ r.shape = shape) ∧
    (¬ FillConst f ops ndShape → shape = ndShape →
      elemwiseN f ops = .ok (.dense shape ((allIdx shape).map fun i => f (ops.map fun o => o.valueAt shape i)))) ∧
    (¬ FillConst f ops ndShape → shape ≠ ndShape → elemwiseN f ops = .error .value) := by
  rw [elemwiseN_eq f ops shape ndShape hc hs hn]
  refine ⟨fun hf => ?_, fun hf he => ?_, fun hf he => ?_⟩
  · rw [if_pos ((fillArr_all_iff f ops ndShape).mpr hf)]
    split
    · exact ⟨_, rfl, rfl⟩
    · exact ⟨_, rfl, rfl⟩
  · rw [if_neg (fun hh => hf ((fillArr_all_iff f ops ndShape).mp hh)), if_pos he]
  · rw [if_neg (fun hh => hf ((fillArr_all_iff f ops ndShape).mp hh)), if_neg he]

/-- **elemwise_errors.** No sparse operand, or shapes that do not broadcast: `ValueError`; and the dense
operands of broadcastable operands always broadcast among themselves (that error branch is dead). -/
theorem elemwise_errors {α : Type} [Inhabited α] [DecidableEq α] (f : List α → α) (ops : List (Operand α)) :
    (ops.any Operand.isCoo = false → elemwiseN f ops = .error .value) ∧
    (∀ e, bshapeN (ops.map Operand.shape) = .error e → elemwiseN f ops = .error .value) ∧
    (∀ shape, bshapeN (ops.map Operand.shape) = .ok shape →
      ∃ nd, bshapeN ((ops.filter Operand.isDense).map Operand.shape) = .ok nd) := by
  refine ⟨elemwiseN_no_coo f ops, fun e he => ?_, fun shape hs => ⟨_, bshapeN_sub_ok hs (denseShapes_sub ops)⟩⟩
  cases hc : ops.any Operand.isCoo with
  | false => exact elemwiseN_no_coo f ops hc
  | true => exact elemwiseN_shape_err f ops e hc he

/-- `broadcast_to` of a `(1,3)` array with fill 1 to `(2,2,3)`: the hypotheses hold and the reads are the operand's -/
example : ∃ r, (COO.broadcastTo ⟨[1, 3], [([0, 0], (5 : Int)), ([0, 2], 7)], 1⟩ [2, 2, 3]) = .ok r ∧
    r.shape = [2, 2, 3] ∧ r.get [1, 1, 2] = 7 ∧ r.get [1, 0, 1] = 1 ∧ COO.SortedLin [2, 2, 3] r.entries := by
  obtain ⟨r, hr, hshape, _, _, _, hget⟩ :=
    broadcastTo_get (⟨[1, 3], [([0, 0], (5 : Int)), ([0, 2], 7)], 1⟩ : COO Int) [2, 2, 3]
      (by decide) (by decide) (by decide)
  obtain ⟨_, r', hr', hs', _⟩ :=
    broadcastTo_sorted_promise (⟨[1, 3], [([0, 0], (5 : Int)), ([0, 2], 7)], 1⟩ : COO Int) [2, 2, 3]
      (by decide) (by decide) (by decide) (by decide)
  have : r' = r := Except.ok.inj (hr'.symm.trans hr)
  subst this
  refine ⟨r', hr, hshape, ?_, ?_, hs'⟩
  · rw [hget [1, 1, 2] (by decide)]; decide
  · rw [hget [1, 0, 1] (by decide)]; decide

/-- three operands of different kinds and ranks: a `(2,1)` sparse array (fill 0), a dense `(3,)`
array and a scalar, multiplied -/
def exOps : List (Operand Int) :=
  [.coo ⟨[2, 1], [([1, 0], 4), ([0, 0], 3)], 0⟩, .dense [3] [1, 2, 3], .scalar 2]
def exMul (l : List Int) : Int := l.foldl (· * ·) 1
def exSum (l : List Int) : Int := l.foldl (· + ·) 0

theorem exOps_wf : ∀ o ∈ exOps, o.WF := by
  intro o ho
  simp only [exOps, List.mem_cons, List.not_mem_nil, or_false] at ho
  rcases ho with rfl | rfl | rfl
  · exact ⟨by decide, by decide⟩
  · trivial
  · trivial

/-- sparse branch: `0 * d * 2` is the same for every dense value `d`, so a sparse result exists;
its reads are the products, its fill is 0 -/
example : ∃ r, elemwiseN exMul exOps = .ok (.sparse r) ∧ r.shape = [2, 3] ∧ r.fill = 0 ∧
    r.get [1, 2] = 24 ∧ r.get [0, 1] = 12 ∧ r.NoFill := by
  have hs : bshapeN (exOps.map Operand.shape) = .ok [2, 3] := by rfl
  have hn : bshapeN ((exOps.filter Operand.isDense).map Operand.shape) = .ok [3] := by rfl
  have hconst : FillConst exMul exOps [3] := (fillArr_all_iff exMul exOps [3]).mp (by decide)
  obtain ⟨r, hr, hshape⟩ := (elemwise_decision exMul exOps [2, 3] [3] (by rfl) hs hn).1 hconst
  obtain ⟨_, ⟨nd, hnd, hfill⟩, hget, hnf, _⟩ := elemwiseN_get exMul exOps exOps_wf r hr
  have hnd' : nd = [3] := Except.ok.inj (hnd.symm.trans hn)
  subst hnd'
  rw [hshape] at hget
  refine ⟨r, hr, hshape, ?_, ?_, ?_, hnf⟩
  · rw [hfill [0] (by decide)]; decide
  · rw [hget [1, 2] (by decide)]; decide
  · rw [hget [0, 1] (by decide)]; decide

/-- no sparse result (the sum depends on the dense value) and the dense operand does not have the
full result shape: `ValueError` -/
example : elemwiseN exSum exOps = .error .value := by
  have hs : bshapeN (exOps.map Operand.shape) = .ok [2, 3] := by rfl
  have hn : bshapeN ((exOps.filter Operand.isDense).map Operand.shape) = .ok [3] := by rfl
  refine (elemwise_decision exSum exOps [2, 3] [3] (by rfl) hs hn).2.2 ?_ (by decide)
  intro h
  have := h [0] (by decide) [1] (by decide)
  revert this
  decide

/-- … but with a dense operand of the full shape the result is the dense array of sums -/
example : elemwiseN exSum [.coo ⟨[2, 1], [([1, 0], 4)], 0⟩, .dense [2, 2] [1, 2, 3, 4]] =
    .ok (.dense [2, 2] [1, 2, 7, 8]) := by
  have hs : bshapeN (([.coo ⟨[2, 1], [([1, 0], 4)], 0⟩, .dense [2, 2] [1, 2, 3, 4]] : List (Operand Int)).map
      Operand.shape) = .ok [2, 2] := by rfl
  have hn : bshapeN ((([.coo ⟨[2, 1], [([1, 0], 4)], 0⟩, .dense [2, 2] [1, 2, 3, 4]] : List (Operand Int)).filter
      Operand.isDense).map Operand.shape) = .ok [2, 2] := by rfl
  rw [(elemwise_decision exSum _ [2, 2] [2, 2] (by rfl) hs hn).2.1 ?_ rfl]
  · rfl
  · intro h
    have := h [0, 0] (by decide) [0, 1] (by decide)
    revert this
    decide

end SparseV.C01
