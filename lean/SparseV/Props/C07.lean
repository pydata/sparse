/-
  Property C07 — fill values are never silently wrong; densification is never implicit.
  The theorems are stated over the table and the decision fragments GENERATED from the
  source (`Gen.fillFacts`, `Gen.fillPolicy`, `Gen.arrayGuard`, `Gen.denseMix`): editing a guard or a
  `fill_value=` keyword in /repo changes what is proved here.
-/
import SparseV.Model.FillPolicy
namespace SparseV.C07
open SparseV SparseV.Gen SparseV.FillPolicy

/-- **Statement_fill_policy_sound** (full strength): in the table read off the current source, no public
function drops the fill value (builds its result from raw parts without `fill_value=` and without a
guard), every zero-fill-only operation calls `check_zero_fill_value` (itself or through the single
function it wraps), the joins call `check_consistent_fill_value`, the scipy exports call
`check_fill_value`. -/
def Statement_fill_policy_sound : Prop := soundB Gen.fillPolicy = true

/-- the two table facts in one `decide +kernel`: both evaluate the three sweeps of `Gen.fillPolicies` -/
theorem table_evaluated : soundB Gen.fillPolicy = true ∧ isSolution Gen.fillFacts Gen.fillPolicies = true := by
  decide +kernel

/-- **fill_policy_sound.** The full statement holds for the whole table generated from the current source (the
kernel evaluates the classification of every function of the package): deleting a guard, or dropping a
`fill_value=` keyword at a raw construction of a function with a sparse operand, makes this theorem fail.
(History of the library: `diagonal`/`diagonalize` built `COO(coords, data, shape)` with neither guard nor fill
until they were repaired; their witness
`sparse.diagonal(COO.from_numpy([[5,1],[2,5]], fill_value=5))` stays in the check and must give `[5,5]`.) -/
theorem fill_policy_sound : Statement_fill_policy_sound := table_evaluated.1

/-- **classification_is_solution.** The policies computed for the generated table (three sweeps) satisfy the
classification rule at EVERY row: each function's policy is `localPolicy` applied to the policies of its
resolved callees.  So the order in which the generator emitted the rows cannot hide anything: a function
whose callee drops is itself classified `drops` unless it has its own guard. -/
theorem classification_is_solution : isSolution Gen.fillFacts Gen.fillPolicies = true := table_evaluated.2

/-- **guard_dominates.** For ANY function facts and ANY callee policies: a function that calls
`check_zero_fill_value` is classified `requiresZero` whatever else it does (so a private helper that
drops, e.g. `_dot`, cannot leak through a guarded public function); an unguarded function with a sparse
operand and a raw construction without `fill_value=` is classified `drops` — propagation or computation
found elsewhere in the same function cannot hide it; and an unguarded function without such a construction
drops as soon as one of its callees does. -/
theorem guard_dominates (f : FillFacts) (cs : List Policy) :
    (f.guardZero = true → localPolicy f cs = Policy.requiresZero) ∧
    (f.guardZero = false → f.guardConsistent = false → f.guardAccept = false →
       f.sparseOperand = true → f.ctorNoFill > 0 → localPolicy f cs = Policy.drops) ∧
    (f.direct = none → Policy.drops ∈ cs → localPolicy f cs = Policy.drops) := by
  refine ⟨?_, ?_, ?_⟩
  · intro h
    simp [localPolicy, FillFacts.direct, h]
  · intro h1 h2 h3 h4 h5
    simp [localPolicy, FillFacts.direct, h1, h2, h3, h4, h5]
  · intro h1 h2
    simp [localPolicy, h1, h2]

/-- **array_guard.** `SparseArray.__array__` (generated from the source) returns the dense array iff
AUTO_DENSIFY is on, and raises RuntimeError otherwise; the switch is off unless SPARSE_AUTO_DENSIFY is set. -/
theorem array_guard (autoDensify : Bool) :
    Gen.arrayGuard autoDensify = (if autoDensify then .ok () else .error Err.runtime) ∧
    Gen.autoDensifyDefault = false := by
  -- exhaustive over the switch: holds for every spelling of the test in the source
  cases autoDensify <;> exact ⟨rfl, rfl⟩

/-- **densemix_decision.** The sparse/dense mix rule of `_Elemwise._get_fill_value` (generated from the source):
the result stays sparse iff func(fill values, dense operands) is a single constant; otherwise it is dense
iff the dense operands already have the result's shape; otherwise ValueError. -/
theorem densemix_decision (constFill denseHasResultShape : Bool) :
    Gen.denseMix constFill denseHasResultShape =
      (if constFill then .ok false else if denseHasResultShape then .ok true else .error Err.value) := by
  -- exhaustive over the two facts: holds for every Boolean spelling of the two tests
  cases constFill <;> cases denseHasResultShape <;> rfl

theorem sumRep_fin (q : Int) : ∀ n : Nat, sumRep (.fin q) n = .fin (q * n)
  | 0 => by simp [sumRep]
  | n + 1 => by rw [sumRep, sumRep_fin q n, Ext.add, Int.natCast_succ, Int.mul_add, Int.mul_one]

/-- a non-finite value absorbs: one copy or more of it sum to itself -/
theorem sumRep_succ_of_not_finite {f : Ext} (hf : f.isFinite = false) : ∀ n : Nat, sumRep f (n + 1) = f
  | 0 => by cases f <;> first | rfl | cases hf
  | n + 1 => by rw [sumRep, sumRep_succ_of_not_finite hf n]; cases f <;> first | rfl | cases hf

/-- multiplication by a count is repeated addition, except `inf * 0` and `nan * 0` -/
theorem mulNat_eq_sumRep (fill : Ext) (n : Nat) (h : ExcludedFullLane fill n = false) :
    Ext.mulNat fill n = sumRep fill n := by
  cases hf : fill.isFinite with
  | true => cases fill <;> first | exact (sumRep_fin _ n).symm | cases hf
  | false =>
    obtain ⟨m, rfl⟩ : ∃ m, n = m + 1 := by
      cases n with
      | zero => simp [ExcludedFullLane, hf] at h
      | succ m => exact ⟨m, rfl⟩
    rw [sumRep_succ_of_not_finite hf]
    cases fill <;> first | rfl | cases hf

-- (which of `h0` / `h` the simplifier needs depends on how the source spells the test: both are always supplied)
set_option linter.unusedSimpArgs false in
/-- **fill_contribution.** What an add-reduction adds to a lane for its unstored elements (the expression GENERATED from
`SparseArray.reduce`) is the sum of that many copies of the fill value — for every fill value (finite, ±inf, NaN) and every
count, zero included: a lane without unstored elements gets nothing added, whatever the fill.  (History of the library: the code added
`fill * 0`, NaN for a non-finite fill — the region `ExcludedFullLane`.  Reverting that repair changes the generated
expression and this theorem fails.) -/
theorem fill_contribution (fill : Ext) (n : Nat) : Gen.fillContribution fill n = sumRep fill n := by
  -- by cases on the count, NOT on the shape of the generated expression: whichever way the source spells "no unstored element"
  -- (`missing = 0`, `¬ missing > 0`, the arms of the conditional in either order) the same two facts decide every test in it
  rcases Nat.eq_zero_or_pos n with h | h
  · subst h
    simp [Gen.fillContribution, sumRep]
  · have hm := mulNat_eq_sumRep fill n (by simp [ExcludedFullLane]; omega)
    have h0 : n ≠ 0 := by omega
    simp [Gen.fillContribution, h0, h, hm]

/-- non-vacuity of the excluded region and of its complement -/
example : ExcludedFullLane Ext.posInf 0 = true ∧ ExcludedFullLane Ext.nan 3 = false ∧ ExcludedFullLane (Ext.fin 2) 0 = false ∧
    sumRep Ext.negInf 2 = Ext.negInf ∧ sumRep (Ext.fin 2) 3 = Ext.fin 6 ∧ Ext.mulNat Ext.posInf 0 = Ext.nan := by decide

/-- non-vacuity: the table is not empty; it contains a zero-fill-only product with its guard and a join with its
consistency guard -/
example : Gen.fillPolicy.length > 100 ∧ policyOf Gen.fillPolicy "sparse.tensordot" = some Policy.requiresZero ∧
    policyOf Gen.fillPolicy "sparse.stack" = some Policy.requiresConsistent := by decide +kernel
/-- non-vacuity of `guard_dominates`: a guarded public function that calls a dropping helper -/
example :
    let pub : FillFacts :=
      { name := "pub", isPublic := true, guardZero := true, guardConsistent := false, guardAccept := false, sparseOperand := true,
        ctorNoFill := 0, ctorOperandFill := 0, ctorOtherFill := 0, unusedFillParam := false, computes := false, calls := ["_h"], callIdx := [0] }
    let h : FillFacts :=
      { name := "_h", isPublic := false, guardZero := false, guardConsistent := false, guardAccept := false, sparseOperand := true,
        ctorNoFill := 1, ctorOperandFill := 0, ctorOtherFill := 0, unusedFillParam := false, computes := false, calls := [], callIdx := [] }
    pass [h, pub] [Policy.other, Policy.other] = [Policy.drops, Policy.requiresZero] ∧
    pass [h, { pub with guardZero := false }] [Policy.other, Policy.other] = [Policy.drops, Policy.drops] := by decide

end SparseV.C07
