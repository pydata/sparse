/-
  Property C14 — copying and persistence round-trip exactly.

  The theorems are about `SparseV.Npz` (Model/Npz.lean) instantiated with the tables of
  `SparseV.Generated.Npz`, which tools/tables.d/C14.py regenerates from /repo's current `save_npz`,
  `load_npz`, `COO.__getstate__/__setstate__` and `numba_extension.py` on every run.  Three switches of
  those tables describe defects of the unrepaired tree and their repairs:
    `gcxsExactTest`            `save_npz` selects the GCXS members by `type(m) is GCXS` (CSR/CSC get none),
    `Gen.npzNoneAxesAsEmpty`   / `Gen.npzEmptyAxesAsNone`: how `compressed_axes = None` is stored / read back,
    `Gen.cooShapeDtype`        the element type of the native `shape` tuple in numba code.
  Each theorem is proved for whichever values the generated file has (the proofs never look at the value
  of a switch unless the statement names it), so the file checks before and after the proposed fixes;
  which regime is in force is reported by the driver op `npz_config` and replayed on the real code by
  harness/c14.py.

  The consistency checks of the two constructors `load_npz` reaches (`Gen.cooCtorChecks`, `Gen.shapeEltOk`,
  `Gen.gcxsCtorChecks`, `Gen.gcxsShapeEltOk`) are translated from `COO.__init__`, `SparseArray.__init__` and
  `GCXS.__init__` on every run (tools/targets.d/C14.py); the theorems go through lemmas that unfold them, so
  a change of any check makes the theorems below fail to check.

  What is assumed, not proved: the zip/npy container (`Container`) is NumPy's and zlib's.  The two
  theorems about damaged files take its behaviour as explicit hypotheses.
-/
import SparseV.Lemmas.Npz
namespace SparseV.C14
open SparseV SparseV.Npz
variable {α : Type}

/-- **Full statement.** For every well-formed COO or GCXS array (any rank, any stored pattern, any fill
value, any compressed axes, subclass instances included) `load_npz(save_npz(x))` returns an array of
the same format class with the same shape, fill value, compressed axes and stored fields. -/
def Statement_npz_roundtrip (α : Type) (axesOk : List Int → Bool) : Prop :=
  ∀ x : Arr α, x.WF axesOk → roundtrip axesOk x = .ok x.norm

/-- **npz_roundtrip_partial** (the round trip outside the excluded region). `load_npz(save_npz(x)) = x`
— same format class, shape, fill value, compressed axes, coords/indices/indptr and data — for every
well-formed `x` that is not `Excluded`: every COO of any rank, and every GCXS whose class `save_npz`
recognises and whose `compressed_axes` it can store. -/
theorem npz_roundtrip_partial (axesOk : List Int → Bool) (x : Arr α)
    (hwf : x.WF axesOk) (hex : ¬ Excluded x) : roundtrip axesOk x = .ok x.norm := by
  -- what `save_npz` wrote is known through `lookup` only (Lemmas/Npz: `save_lookup`, from `decide`d facts about the
  -- generated tables); `load_npz` sees the members through `lookup` only, so it may be run on the literal list `membersOf`
  obtain ⟨m, hm⟩ := save_ok x
  have hrt : roundtrip axesOk x = load axesOk m := by rw [roundtrip, hm]
  rw [hrt]
  cases x with
  | coo s c d f =>
    rw [load_of_agree axesOk (save_lookup (Arr.coo s c d f) table_coo hm), load_membersOf_coo]
    exact cooCtor_wf axesOk s c d f hwf
  | gcxs e s d i p ca f =>
    rw [load_of_agree axesOk (save_lookup (Arr.gcxs e s d i p ca f) (table_gcxs_recognised (recognised_of_not_excluded hex)) hm)]
    cases ca with
    | some l =>
      rw [load_membersOf_gcxs (l := l) axesOk e s d i p (some l) f rfl, hwf.decodeAxes_eq]
      exact gcxsCtor_wf axesOk e s d i p (some l) f hwf
    | none =>
      -- outside the excluded region `None` is stored as an empty array and read back as `None`
      obtain ⟨h1, h3⟩ := Classical.not_not.mp fun hn => hex (Or.inr ⟨rfl, hn⟩)
      have henc : (encAxes none : Payload α) = .ints [] := by
        unfold encAxes
        exact if_pos h1
      rw [load_membersOf_gcxs axesOk e s d i p none f henc, show decodeAxes [] = none from if_pos ⟨h3, rfl⟩]
      exact gcxsCtor_wf axesOk e s d i p none f hwf

/-- **npz_roundtrip_coo.** COO arrays of every rank (0-d included), pattern, fill value: exact round trip,
unconditionally. -/
theorem npz_roundtrip_coo (axesOk : List Int → Bool) (s : List Int) (c : Mat)
    (d : List α) (f : α) (hwf : (Arr.coo s c d f).WF axesOk) :
    roundtrip axesOk (Arr.coo s c d f) = .ok (Arr.coo s c d f) :=
  npz_roundtrip_partial axesOk _ hwf (fun h => h)

/-- **npz_roundtrip** (full statement, conditional on the switches): once `save_npz` recognises GCXS
subclasses and `None` axes are stored as an empty array and read back as `None`, nothing is excluded. -/
theorem npz_roundtrip (axesOk : List Int → Bool)
    (h1 : gcxsExactTest = false) (h2 : Gen.npzNoneAxesAsEmpty = true) (h3 : Gen.npzEmptyAxesAsNone = true) :
    Statement_npz_roundtrip α axesOk := by
  intro x hwf
  apply npz_roundtrip_partial axesOk x hwf
  cases x with
  | coo s c d f => exact fun h => h
  | gcxs e s d i p ca f =>
    intro h
    rcases h with ⟨_, h⟩ | ⟨_, h⟩
    · rw [h1] at h; exact absurd h (by simp)
    · exact h ⟨h2, h3⟩

/-- a 1-d GCXS array: `[0, 5, 0, 7]`, `compressed_axes = None`, `indptr = ()` -/
def w1d : Arr Int := .gcxs true [4] [5, 7] [1, 3] [] none 0
/-- a CSR matrix `[[5, 0], [0, 7]]` (instance of a subclass of GCXS) -/
def wcsr : Arr Int := .gcxs false [2, 2] [5, 7] [0, 1] [0, 1, 2] (some [0]) 0

/-- **npz_gcxs1d_counterexample.** While `compressed_axes = None` is stored as given, the 1-d GCXS array
`w1d` is well formed, saved, and `load_npz` raises ValueError on the file ("Object arrays cannot be
loaded"): the round trip fails. -/
theorem npz_gcxs1d_counterexample (h : Gen.npzNoneAxesAsEmpty = false) :
    w1d.WF strictlyIncreasing ∧ Excluded w1d ∧ roundtrip strictlyIncreasing w1d = .error .value := by
  refine ⟨by decide, ?_, ?_⟩
  · right; exact ⟨rfl, fun hh => by rw [h] at hh; exact absurd hh.1 (by simp)⟩
  · revert h
    decide

/-- **npz_subclass_counterexample.** While the dispatch tests `type(matrix) is GCXS`, a CSR matrix is
saved without `indices`/`indptr`/`compressed_axes` and `load_npz` raises RuntimeError on the file. -/
theorem npz_subclass_counterexample (h : gcxsExactTest = true) :
    wcsr.WF strictlyIncreasing ∧ Excluded wcsr ∧ roundtrip strictlyIncreasing wcsr = .error .runtime := by
  refine ⟨by decide, Or.inl ⟨rfl, h⟩, ?_⟩
  revert h
  decide

/-- **npz_roundtrip_counterexample.** In either defective regime the full statement is false. -/
theorem npz_roundtrip_counterexample (h : Gen.npzNoneAxesAsEmpty = false ∨ gcxsExactTest = true) :
    ¬ Statement_npz_roundtrip Int strictlyIncreasing := by
  intro hst
  rcases h with h | h
  · have := hst w1d (npz_gcxs1d_counterexample h).1
    rw [(npz_gcxs1d_counterexample h).2.2] at this
    exact absurd this (by simp)
  · have := hst wcsr (npz_subclass_counterexample h).1
    rw [(npz_subclass_counterexample h).2.2] at this
    exact absurd this (by simp)

/-- every field of `y` is the member of that name in `m` (coords up to the constructor's `(ndim, 0)`
normalisation of an empty array; compressed axes up to the decoding of the empty array and the
constructor's `None` for one dimension) -/
def FieldsFrom (m : Members α) : Arr α → Prop
  | .coo s c d f =>
    lookup m "shape" = some (.ints s) ∧ lookup m "data" = some (.vals d) ∧ lookup m "fill_value" = some (.val f)
    ∧ ∃ c0, lookup m "coords" = some (.mat c0) ∧ c = fixCoords s c0
  | .gcxs e s d i p ca f =>
    e = true ∧ lookup m "shape" = some (.ints s) ∧ lookup m "data" = some (.vals d)
    ∧ lookup m "fill_value" = some (.val f) ∧ lookup m "indices" = some (.ints i) ∧ lookup m "indptr" = some (.ints p)
    ∧ ∃ l, lookup m "compressed_axes" = some (.ints l) ∧ ca = normAxes s (decodeAxes l)

/-- **load_no_defaulting.** If `load_npz` returns an array `y` for a member map `m` — any member map, not
only one written by `save_npz` — then one `try` block of `load_npz` found *every* member it asks for, none
of them an object array, it is the block of `y`'s class, and every field of `y` is literally the member of
that name: nothing is defaulted, nothing is taken from elsewhere.  So a member set that is not the image of
`save_npz` is rejected or loads the array it literally describes — never some other array. -/
theorem load_no_defaulting (axesOk : List Int → Bool) (m : Members α) (y : Arr α)
    (h : load axesOk m = .ok y) :
    ∃ b ∈ Gen.npzRequire, b.1 = y.clsName ∧ (∀ k ∈ b.2, ∃ p, lookup m k = some p ∧ p ≠ .object) ∧ FieldsFrom m y := by
  obtain ⟨b, hb, f, hf, hc⟩ := loadFrom_ok_branch h
  obtain ⟨hall, hfrom⟩ := fetchAll_ok_lookup hf
  rcases construct_ok hc with ⟨hcls, c, d, s, v, h1, h2, h3, h4, hy⟩ | ⟨hcls, d, i, p, ca, s, v, h1, h2, h3, h4, h5, h6, hy⟩
  · obtain ⟨_, _, _, rfl⟩ := (cooCtor_ok_iff c d s v y).mp hy
    exact ⟨b, hb, hcls, hall, hfrom _ _ h3, hfrom _ _ h2, hfrom _ _ h4, c, hfrom _ _ h1, rfl⟩
  · obtain ⟨_, _, _, rfl⟩ := (gcxsCtor_ok_iff axesOk d i p (decodeAxes ca) s v y).mp hy
    exact ⟨b, hb, hcls, hall, rfl, hfrom _ _ h5, hfrom _ _ h1, hfrom _ _ h6, hfrom _ _ h2, hfrom _ _ h3, ca, hfrom _ _ h4, rfl⟩

/-- **load_accepted_wf.** Whatever member map `load_npz` accepts — any member map, written by `save_npz` or
not — the array it returns satisfies the structural invariant of its format: every extent is non-negative;
for COO there is one coordinate row per dimension and one value per coordinate column (every rank, 0-d
included); for GCXS — the full invariant of a compressed-row layout except order and uniqueness of the indices
within a row — there is one value per stored index (one dimension and up), with one dimension every index is a
position of the array, and with two dimensions and up `compressed_axes` is a non-empty admissible list of in-range
axes that does not name every dimension, `len(indptr)` is the number of compressed rows plus one, `indptr[0] = 0`,
`indptr[-1] = len(indices)`, `indptr` never decreases, and every index lies in `[0, product of the uncompressed
extents)`.  So a file whose members are inconsistent in any of these respects is rejected, never loaded.
(`hm`: the `coords` member NumPy hands over is a genuine 2-d array.) -/
theorem load_accepted_wf (axesOk : List Int → Bool) (m : Members α) (y : Arr α)
    (hm : ∀ c, lookup m "coords" = some (.mat c) → c.WF) (h : load axesOk m = .ok y) : y.WF axesOk := by
  obtain ⟨b, _, f, hf, hc⟩ := loadFrom_ok_branch h
  obtain ⟨_, hfrom⟩ := fetchAll_ok_lookup hf
  rcases construct_ok hc with ⟨_, c, d, s, v, h1, _, _, _, hy⟩ | ⟨_, d, i, p, ca, s, v, _, _, _, _, _, _, hy⟩
  · obtain ⟨hnn, hd, hn, hy⟩ := (cooCtor_ok_iff c d s v y).mp hy
    subst hy
    exact ⟨hnn, fixCoords_preserves_wf s c (hm c (hfrom _ _ h1)), hn.symm, hd⟩
  · obtain ⟨hax, hnn, hst, hy⟩ := (gcxsCtor_ok_iff axesOk d i p (decodeAxes ca) s v y).mp hy
    subst hy
    refine ⟨hnn, hst, ?_⟩
    cases hca : normAxes s (decodeAxes ca) with
    | none => trivial
    | some l =>
      unfold normAxes at hca
      split at hca
      · exact absurd hca (by simp)
      · rename_i h1d
        rw [hca] at hax
        obtain ⟨a1, a2, a3, a4⟩ := (checkAxes_ok_iff axesOk s.length (some l)).mp hax
        exact ⟨a1, a2, h1d, a3, a4⟩

/-- **load_accepted_roundtrips.** An accepted member map describes an array `save_npz` can write and
`load_npz` reads back unchanged: if `load_npz` returns `y` for `m` then `load_npz(save_npz(y)) = y` (outside
the `Excluded` region of the round trip, which is empty once `None` axes are stored as an empty array).  So
`load_npz` never produces an array that the persistence format itself cannot represent. -/
theorem load_accepted_roundtrips (axesOk : List Int → Bool) (m : Members α) (y : Arr α)
    (hm : ∀ c, lookup m "coords" = some (.mat c) → c.WF) (h : load axesOk m = .ok y) (hex : ¬ Excluded y) :
    roundtrip axesOk y = .ok y := by
  have hwf := load_accepted_wf axesOk m y hm h
  have hn : y.norm = y := by
    obtain ⟨_, _, _, _, hff⟩ := load_no_defaulting axesOk m y h
    cases y with
    | coo s c d f => rfl
    | gcxs e s d i p ca f => obtain ⟨he, _⟩ := hff; subst he; rfl
  have := npz_roundtrip_partial axesOk y hwf hex
  rwa [hn] at this

/-- **gcxs_member_damage_confined.** Take the file of any well-formed GCXS array of two or more dimensions and
replace ONE of the members `data`, `indices`, `indptr` by anything at all (no assumption on the container, the
checksum included).  If `load_npz` accepts the result, the array it returns has the original shape, compressed
axes, fill value and the two untouched members, the replaced member is what the file now holds, and the triple
satisfies the structural invariant `GcxsStruct` again: the damage cannot spread to anything else, and it cannot
produce an inconsistent array. -/
theorem gcxs_member_damage_confined (axesOk : List Int → Bool) (e : Bool) (s : List Int) (d : List α)
    (i p l : List Int) (f : α) (hwf : (Arr.gcxs e s d i p (some l) f).WF axesOk)
    (hex : ¬ Excluded (Arr.gcxs e s d i p (some l) f))
    (m : Members α) (hs : save (Arr.gcxs e s d i p (some l) f) = .ok m) (m' : Members α) (k : String)
    (hk : k = "data" ∨ k = "indices" ∨ k = "indptr")
    (hsame : ∀ k' ∈ vocabulary, k' ≠ k → lookup m' k' = lookup m k')
    (y : Arr α) (hload : load axesOk m' = .ok y) :
    ∃ d' i' p', y = .gcxs true s d' i' p' (some l) f
      ∧ lookup m' "data" = some (.vals d') ∧ lookup m' "indices" = some (.ints i') ∧ lookup m' "indptr" = some (.ints p')
      ∧ (k ≠ "data" → d' = d) ∧ (k ≠ "indices" → i' = i) ∧ (k ≠ "indptr" → p' = p)
      ∧ GcxsStruct s d' i' p' (some l) := by
  obtain ⟨hcoords, hdata, hshape, hfill, hind, hptr, haxes⟩ :=
    save_gcxs_members e s d i p (some l) f (recognised_of_not_excluded hex) hs
  have hne : "coords" ≠ k ∧ "shape" ≠ k ∧ "compressed_axes" ≠ k ∧ "fill_value" ≠ k := by
    rcases hk with rfl | rfl | rfl <;> decide
  have hnocoords : lookup m' "coords" = none := by
    rw [hsame "coords" (by decide) hne.1, hcoords]
  have hwf' := load_accepted_wf axesOk m' y (fun c hc => by rw [hnocoords] at hc; cases hc) hload
  obtain ⟨b, hb, hbc, hall, hff⟩ := load_no_defaulting axesOk m' y hload
  cases y with
  | coo s' c' d' f' =>
    obtain ⟨_, _, _, c0, hc0, _⟩ := hff
    rw [hnocoords] at hc0
    cases hc0
  | gcxs e' s' d' i' p' ca' f' =>
    obtain ⟨he', hms, hmd, hmf, hmi, hmp, la, hma, hca'⟩ := hff
    rw [hsame "shape" (by decide) hne.2.1, hshape] at hms
    rw [hsame "compressed_axes" (by decide) hne.2.2.1, haxes] at hma
    rw [hsame "fill_value" (by decide) hne.2.2.2, hfill] at hmf
    cases hms
    cases hma
    cases hmf
    subst he'
    rw [hwf.decodeAxes_eq, hwf.normAxes_eq] at hca'
    subst hca'
    refine ⟨d', i', p', rfl, hmd, hmi, hmp, fun h => ?_, fun h => ?_, fun h => ?_, hwf'.2.1⟩
    · rw [hsame "data" (by decide) (Ne.symm h), hdata] at hmd
      cases hmd
      rfl
    · rw [hsame "indices" (by decide) (Ne.symm h), hind] at hmi
      cases hmi
      rfl
    · rw [hsame "indptr" (by decide) (Ne.symm h), hptr] at hmp
      cases hmp
      rfl

/-- **gcxs_count_damage_rejected.** Take the file of any well-formed GCXS array of two or more dimensions and
replace ONE of the members `data`, `indices`, `indptr` by anything with a different number of entries (what a
damaged `shape` field in that member's npy header produces; no assumption on the container, the checksum
included): `load_npz` raises.  Before the constructor validated its arguments such a file loaded as an
inconsistent array. -/
theorem gcxs_count_damage_rejected (axesOk : List Int → Bool) (e : Bool) (s : List Int) (d : List α)
    (i p l : List Int) (f : α) (hwf : (Arr.gcxs e s d i p (some l) f).WF axesOk)
    (hex : ¬ Excluded (Arr.gcxs e s d i p (some l) f))
    (m : Members α) (hs : save (Arr.gcxs e s d i p (some l) f) = .ok m) (m' : Members α) (k : String)
    (hk : k = "data" ∨ k = "indices" ∨ k = "indptr")
    (hsame : ∀ k' ∈ vocabulary, k' ≠ k → lookup m' k' = lookup m k')
    (hcount : ∀ q q', lookup m k = some q → lookup m' k = some q' → q'.count ≠ q.count) :
    ∃ err, load axesOk m' = .error err := by
  cases hload : load axesOk m' with
  | error err => exact ⟨err, rfl⟩
  | ok y =>
    exfalso
    obtain ⟨d', i', p', _, hmd, hmi, hmp, hd, hi, hp, hst'⟩ :=
      gcxs_member_damage_confined axesOk e s d i p l f hwf hex m hs m' k hk hsame y hload
    obtain ⟨_, hmd0, _, _, hmi0, hmp0, _⟩ := save_gcxs_members e s d i p (some l) f (recognised_of_not_excluded hex) hs
    -- both triples have one datum per index and one index pointer per compressed row plus one
    have hs2 := hwf.two_dims
    have hsne : s ≠ [] := by intro h0; subst h0; simp at hs2
    have hp1 := hwf.struct.indptr_len hs2
    have hp1' := hst'.indptr_len hs2
    have hdi := hwf.struct.data_len hsne
    have hdi' := hst'.data_len hsne
    rcases hk with hk | hk | hk <;> subst hk
    · have := hcount (.vals d) (.vals d') hmd0 hmd
      simp [Payload.count] at this
      have hii := hi (by decide)
      subst hii
      omega
    · have := hcount (.ints i) (.ints i') hmi0 hmi
      simp [Payload.count] at this
      have hdd := hd (by decide)
      subst hdd
      omega
    · have := hcount (.ints p) (.ints p') hmp0 hmp
      simp [Payload.count] at this
      omega

/-- **gcxs_content_damage_rejected.** Take the file of any well-formed GCXS array of two or more dimensions and
alter the *contents* of `indices` so that some index falls outside `[0, product of the uncompressed extents)`, or
the contents of `indptr` so that it decreases somewhere (lengths and end pointers may stay consistent; no
assumption on the container): `load_npz` raises.  Before 748e5d3 such a file loaded literally, as an array whose
stored positions are not positions of the array. -/
theorem gcxs_content_damage_rejected (axesOk : List Int → Bool) (e : Bool) (s : List Int) (d : List α)
    (i p l : List Int) (f : α) (hwf : (Arr.gcxs e s d i p (some l) f).WF axesOk)
    (hex : ¬ Excluded (Arr.gcxs e s d i p (some l) f))
    (m : Members α) (hs : save (Arr.gcxs e s d i p (some l) f) = .ok m) (m' : Members α) (k : String)
    (hsame : ∀ k' ∈ vocabulary, k' ≠ k → lookup m' k' = lookup m k')
    (hbad : (k = "indices" ∧ ∀ v, lookup m' "indices" = some (.ints v) → ¬ InRange v (colsOf s l))
      ∨ (k = "indptr" ∧ ∀ v, lookup m' "indptr" = some (.ints v) → ¬ v.Pairwise (· ≤ ·))) :
    ∃ err, load axesOk m' = .error err := by
  cases hload : load axesOk m' with
  | error err => exact ⟨err, rfl⟩
  | ok y =>
    exfalso
    have hk : k = "data" ∨ k = "indices" ∨ k = "indptr" := by
      rcases hbad with ⟨h, _⟩ | ⟨h, _⟩
      · exact Or.inr (Or.inl h)
      · exact Or.inr (Or.inr h)
    obtain ⟨d', i', p', _, _, hmi, hmp, _, _, _, hst'⟩ :=
      gcxs_member_damage_confined axesOk e s d i p l f hwf hex m hs m' k hk hsame y hload
    rcases hbad with ⟨_, h⟩ | ⟨_, h⟩
    · exact h i' hmi (hst'.in_range hwf.two_dims)
    · exact h p' hmp (hst'.mono hwf.two_dims)

/-- **load_row_order_unchecked.** What is STILL trusted after the constructor validates lengths, end pointers,
monotonicity and index range: the order and the multiplicity of the indices *within a row*.  The member set
`rowOrderWitness` (Model/Npz.lean: a 2×3 array whose row 0 lists the columns `2, 0, 2` — out of order, one
twice) passes every check and is loaded literally (`load_no_defaulting`): the result is well formed in the sense
of `load_accepted_wf`, and that is all the constructor promises.  harness/c14.py replays the witness on the real
`load_npz`. -/
theorem load_row_order_unchecked :
    load strictlyIncreasing rowOrderWitness = .ok (.gcxs true [2, 3] [5, 7, 8, 9] [2, 0, 2, 1] [0, 3, 4] (some [0]) 0) := by
  decide

/-- **load_determined.** Two member maps that agree on the seven names `load_npz` asks for load the same
array (or both fail the same way): no other content of the file influences the result. -/
theorem load_determined (axesOk : List Int → Bool) (m m' : Members α)
    (h : ∀ k ∈ vocabulary, lookup m k = lookup m' k) : load axesOk m = load axesOk m' :=
  loadFrom_congr axesOk _ h

/-- **truncation_rejected.** Hypotheses about NumPy's container, *not* proved here:
(`h_dir_at_end`) the reader accepts a byte string only if it ends with a zip end-of-central-directory
record (the central directory is at the end of the file and is located first);
(`h_single_dir`) a strict prefix of a file written by `np.savez` does not end with such a record — or,
when `load_npz` rejects archives with leading data (`Gen.npzRejectLeadingData`), the archive that record
describes does not start at byte 0.
Then `load_npz` raises an exception on **every** strict prefix of **every** saved file.
(`h_single_dir` without the leading-data clause is false for an array whose data bytes spell a complete
npz file, saved uncompressed: harness/c14.py replays that witness.) -/
theorem truncation_rejected (C : Container α) (axesOk : List Int → Bool)
    (h_dir_at_end : ∀ b m, C.read b = .ok m → C.EndsWithDirectory b)
    (h_single_dir : ∀ m p, StrictPrefix p (C.write m) → C.EndsWithDirectory p →
      Gen.npzRejectLeadingData = true ∧ C.hasLeadingData p = true)
    (x : Arr α) (m : Members α) (_hs : save x = .ok m) (p : List UInt8) (hp : StrictPrefix p (C.write m)) :
    ∃ e, loadFile C axesOk p = .error e := by
  unfold loadFile
  cases hr : C.read p with
  | error e => exact ⟨e, rfl⟩
  | ok m' =>
    have := h_single_dir m p hp (h_dir_at_end p m' hr)
    exact ⟨.runtime, by simp [this.1, this.2]⟩

/-- **corruption_never_other.** Hypothesis about the container, *not* proved here (`h_crc`, CRC-32 per
member): whatever the reader returns for a damaged copy of a saved file, a member it presents under one of
the seven names `load_npz` asks for has the content the original file has under that name (a member whose
name was damaged is presented under a name outside that vocabulary, or not at all).
Then the damaged file is rejected or loads **the same array** as the original — never another one.
(`h_crc` holds for members `zipfile` reads in one chunk; for a member above 4096 stored bytes `numpy` stops
reading before the end and the checksum is never compared, unless `load_npz` verifies the archive first
(`Gen.npzVerifyCrc`): harness/c14.py replays that witness.) -/
theorem corruption_never_other (axesOk : List Int → Bool) (x : Arr α) (m : Members α) (hs : save x = .ok m)
    (m' : Members α) (h_crc : ∀ k ∈ vocabulary, lookup m' k = none ∨ lookup m' k = lookup m k)
    (y : Arr α) (hl : load axesOk m' = .ok y) : load axesOk m = .ok y :=
  loadFrom_sub (save_decisive x m hs) h_crc hl

/-- **pickle_roundtrip.** `__setstate__(__getstate__(x))` on a fresh object restores coords, data, shape and
fill value exactly and leaves the cache off (the cache is dropped, as the property allows: it is not part
of the array's value).  With CPython's `__reduce_ex__` this is `pickle.loads(pickle.dumps(x))` and the
value part of `copy.copy` / `copy.deepcopy`. -/
theorem pickle_roundtrip (x : CooObj α) : pickleRoundtrip x = .ok { x with cache := none } := by
  simp [pickleRoundtrip, getstate, Gen.cooGetState, attrsOf, CooObj.attr, setstate, Gen.cooSetState,
    Partial.assignAll, Partial.assign, Gen.cooSetStateReset, Partial.reset, Partial.complete]

/-- **shallowcopy_alias.** A shallow copy has equal fields and refers to the *same* two buffers, so a write
through the copy is visible in the original. -/
theorem shallowcopy_alias (h : Heap α) (o : CooRef α) (v : List α) :
    (shallowCopy o).coords = o.coords ∧ (shallowCopy o).data = o.data
    ∧ (shallowCopy o).shape = o.shape ∧ (shallowCopy o).fill = o.fill
    ∧ (h.writeData (shallowCopy o).data v).deref o = (h.writeData o.data v).deref o := by
  simp [shallowCopy]

/-- **deepcopy_disjoint.** A deep copy has equal contents, refers to two buffers that did not exist before
(so they are shared with no live object, the original included), leaves every existing buffer unchanged,
and a later write through the copy does not change what the original holds. -/
theorem deepcopy_disjoint (h : Heap α) (o : CooRef α) (hv : h.Valid o) (v : List α) :
    let h' := (deepCopy h o).1
    let o' := (deepCopy h o).2
    (∀ q : CooRef α, h.Valid q → o'.coords ≠ q.coords ∧ o'.data ≠ q.data)
    ∧ h'.deref o' = (h.deref o).map (fun x => { x with cache := none })
    ∧ (∀ q : CooRef α, h.Valid q → h'.deref q = h.deref q)
    ∧ (∀ q : CooRef α, h.Valid q → (h'.writeData o'.data v).deref q = h.deref q) := by
  obtain ⟨hc, hd⟩ := hv
  refine ⟨?_, ?_, ?_, ?_⟩
  · intro q ⟨hq1, hq2⟩
    simp only [deepCopy]
    exact ⟨by omega, by omega⟩
  · simp [deepCopy, Heap.deref, hc, hd, List.getD_eq_getElem?_getD]
  · intro q ⟨hq1, hq2⟩
    simp [deepCopy, Heap.deref, hq1, hq2, List.getElem?_append_left]
  · intro q ⟨hq1, hq2⟩
    simp [deepCopy, Heap.deref, Heap.writeData, hq1, hq2, List.getElem?_append_left]

/-- **box_unbox_id.** If every extent of the shape fits the coords dtype, passing a COO through compiled
code (`numba.njit(lambda s: s)`) is the Python-level constructor applied to the array's own coords, data,
shape and fill value — which is the identity on a canonical array (constructor idempotence, C05/C06). -/
theorem box_unbox_id (ctor : Mat → List α → List Int → α → Except Err (CooObj α)) (t : IntTy) (x : CooObj α)
    (hfit : ∀ e ∈ x.shape, t.fits e) : boxUnbox ctor t x = ctor x.coords x.data x.shape x.fill := by
  rw [boxUnbox_eq, nativeShape_of_fits t x.shape hfit]

/-- … hence the identity whenever the constructor is the identity on `x`'s fields -/
theorem box_unbox_id_canonical (ctor : Mat → List α → List Int → α → Except Err (CooObj α)) (t : IntTy)
    (x : CooObj α) (hfit : ∀ e ∈ x.shape, t.fits e)
    (hcanon : ctor x.coords x.data x.shape x.fill = .ok { x with cache := none }) :
    boxUnbox ctor t x = .ok { x with cache := none } := by
  rw [box_unbox_id ctor t x hfit, hcanon]

/-- a COO with `uint8` coordinates and shape `(300,)`, one stored element at index 5 -/
def wbox : CooObj Int := ⟨⟨1, 1, [[5]]⟩, [1], [300], 0, none⟩

/-- **box_unbox_counterexample.** While the native shape tuple has the coords dtype, the array `wbox`
(`uint8` coordinates, shape `(300,)`: 300 does not fit) comes back from compiled code with the shape the
constructor was given, `(44,)` — whatever the constructor does, the result is not `wbox`. -/
theorem box_unbox_counterexample (h : Gen.cooShapeDtype = "coords")
    (ctor : Mat → List Int → List Int → Int → Except Err (CooObj Int))
    (hshape : ∀ c d s f y, ctor c d s f = .ok y → y.shape = s) :
    ¬ (∀ e ∈ wbox.shape, (⟨8, false⟩ : IntTy).fits e) ∧ boxUnbox ctor ⟨8, false⟩ wbox ≠ .ok wbox := by
  refine ⟨by decide, ?_⟩
  have hn : nativeShape ⟨8, false⟩ [300] = [44] := by
    simp [nativeShape, h, IntTy.wrap]
  rw [boxUnbox_eq, show wbox.shape = [300] from rfl, hn]
  intro hc
  have := hshape _ _ _ _ _ hc
  simp [wbox] at this

/-- a 3-d COO, a 0-d COO with one stored element and a 3-d GCXS compressed along axes (0, 2) are well
formed, not excluded, and round-trip in the executable model -/
def exCoo : Arr Int := .coo [2, 3, 2] ⟨3, 2, [[0, 1], [2, 0], [1, 1]]⟩ [5, -7] 3
def exCoo0 : Arr Int := .coo [] ⟨0, 1, []⟩ [9] 0
def exGcxs : Arr Int := .gcxs true [2, 3, 2] [5, -7] [2, 0] [0, 1, 1, 1, 2] (some [0, 2]) 3
example : exCoo.WF strictlyIncreasing ∧ ¬ Excluded exCoo ∧ roundtrip strictlyIncreasing exCoo = .ok exCoo := by decide
example : exCoo0.WF strictlyIncreasing ∧ roundtrip strictlyIncreasing exCoo0 = .ok exCoo0 := by decide
example : exGcxs.WF strictlyIncreasing ∧ ¬ Excluded exGcxs ∧ roundtrip strictlyIncreasing exGcxs = .ok exGcxs := by decide
/-- a member set that is not an image of `save_npz` (no `fill_value`) is rejected; one with all members is loaded literally -/
example : load strictlyIncreasing ([("coords", .mat ⟨1, 1, [[0]]⟩), ("data", .vals [4]), ("shape", .ints [2])] : Members Int)
    = .error .runtime := by decide
/-- the hypotheses of `gcxs_count_damage_rejected` are satisfiable: `exGcxs` with its `indptr` member cut short is rejected -/
example : load strictlyIncreasing ([("data", .vals [5, -7]), ("shape", .ints [2, 3, 2]), ("fill_value", .val 3),
    ("indices", .ints [2, 0]), ("indptr", .ints [0, 1, 1, 2]), ("compressed_axes", .ints [0, 2])] : Members Int)
    = .error .value := by decide
/-- contents: an index outside the 2×2 array with a non-monotone `indptr` (accepted before 748e5d3), and each defect alone, are rejected -/
example : load strictlyIncreasing ([("data", .vals [5, 7]), ("shape", .ints [2, 2]), ("fill_value", .val 0),
    ("indices", .ints [9, -4]), ("indptr", .ints [0, 3, 2]), ("compressed_axes", .ints [0])] : Members Int) = .error .value := by decide
example : load strictlyIncreasing ([("data", .vals [5, 7]), ("shape", .ints [2, 2]), ("fill_value", .val 0),
    ("indices", .ints [0, 2]), ("indptr", .ints [0, 1, 2]), ("compressed_axes", .ints [0])] : Members Int) = .error .value := by decide
example : load strictlyIncreasing ([("data", .vals [5, 7]), ("shape", .ints [2, 2, 1]), ("fill_value", .val 0),
    ("indices", .ints [0, 1]), ("indptr", .ints [0, 2, 1, 2, 2]), ("compressed_axes", .ints [0, 1])] : Members Int) = .error .value := by decide
/-- … and a 1-d GCXS member set with an index equal to the extent -/
example : load strictlyIncreasing ([("data", .vals [5]), ("shape", .ints [4]), ("fill_value", .val 0),
    ("indices", .ints [4]), ("indptr", .ints []), ("compressed_axes", .ints [])] : Members Int) = .error .value := by decide
/-- a 0-d COO member set with two values (accepted before the constructor checked every shape) is rejected -/
example : load strictlyIncreasing ([("coords", .mat ⟨0, 1, []⟩), ("data", .vals [4, 4]), ("shape", .ints []), ("fill_value", .val 0)] : Members Int)
    = .error .value := by decide
example : (∀ e ∈ [255], (⟨8, false⟩ : IntTy).fits e) ∧ ¬ (⟨8, false⟩ : IntTy).fits 256 ∧ (⟨8, true⟩ : IntTy).wrap 200 = -56 := by decide

end SparseV.C14
