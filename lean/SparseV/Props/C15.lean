/-
  Property C15 — the integer type used to store coordinates never affects values.

  For every width-sensitive site `W` of the library (models in `SparseV.Model.Width`, each computing in its
  stored width with exactly the guard the code performs):

    `W_width_independent`     guard → the result computed in type `t` equals the unbounded-integer result
    `W_guard_rejects_cleanly` ¬guard → the error value the code raises (`ValueError`)

  Every theorem holds for ALL index types (`t.bits` is a variable: 8, 16, 32, 64 and every other width),
  all coordinates, extents, shifts, offsets.  Hypotheses named `hshape`/`Holds` are the property's
  precondition "the index type can hold the operand's shape"; `0 ≤ c`, `c < n` say that `c` is a coordinate.

  Where the code's guard is too weak the full statement is kept as `Statement_W`, refuted by
  `W_counterexample` (a boundary instance that is replayed on the real code), and proved as `W_partial`
  under one extra decidable hypothesis; that hypothesis negated (`Excluded_W`) is the finding's region.
  The proposed fix of each such site is modelled too and satisfies the full statement (`WFixed_…`).
-/
import SparseV.Lemmas.Width
namespace SparseV.C15
open SparseV SparseV.IdxTy

/-- **stored_value_exact.** Storing a representable value in an index type returns that value (no wrap), for
every signedness and width. -/
theorem stored_value_exact (t : IdxTy) (n : Int) (h : t.fits n) : t.wrap n = n := wrap_of_fits h

/-- whatever an unchecked store leaves in an index type is a value of that type -/
theorem stored_value_representable (t : IdxTy) (n : Int) : t.fits (t.wrap n) := fits_wrap t n

/-- `np.min_scalar_type(n)` can hold `n` -/
theorem min_scalar_type_holds (n : Int) (r : IdxTy) (h : minScalarType n = some r) : r.fits n := minScalarType_fits h

/-- the dtype chosen by `get_out_dtype` / `if not can_store(dt, n): dt = np.min_scalar_type(n)` can hold `n` -/
theorem get_out_dtype_holds (t r : IdxTy) (n : Int) (h : getOutDtype t n = some r) : r.fits n := getOutDtype_fits h

example : u8.wrap 300 = 44 ∧ i8.wrap 200 = -56 ∧ u8.fits 255 ∧ ¬ u8.fits 256 ∧ getOutDtype i8 200 = some u8 := by decide

/-! ## W1 COO `getitem`: `(coords - start) // step` -/

/-- the selected coordinates of a normalised slice are `start + j * step`, `j ≥ 0` -/
def Statement_getitem : Prop :=
  ∀ (t : IdxTy) (c start step j : Int), 0 ≤ c → 0 ≤ start → t.fits c → t.fits start → step ≠ 0 → 0 ≤ j →
    c = start + j * step → getitemCoord t c start step = .ok (getitemCoordInf c start step)

/-- region of finding F-getitem-step: the step is not representable in the coordinates' dtype
(every negative step for an unsigned dtype; `x[::200]` for `int8`) -/
def Excluded_getitem (t : IdxTy) (step : Int) : Prop := ¬ t.fits step
instance (t : IdxTy) (step : Int) : Decidable (Excluded_getitem t step) := by unfold Excluded_getitem; infer_instance

/-- **getitem_partial.** Outside the excluded region the new coordinate computed in the coordinates' dtype
is the position `j` of the element in the selection, for every dtype. -/
theorem getitem_partial (t : IdxTy) (c start step j : Int) (h0 : 0 ≤ c) (hs0 : 0 ≤ start) (hc : t.fits c)
    (hst : t.fits start) (hstep : step ≠ 0) (hj : 0 ≤ j) (heq : c = start + j * step)
    (hex : ¬ Excluded_getitem t step) :
    getitemCoord t c start step = .ok (getitemCoordInf c start step) := by
  have hfs : t.fits step := Classical.not_not.mp hex
  -- a representable step of an unsigned dtype is positive
  have hsg : t.signed = true ∨ 0 < step := by
    cases hsg : t.signed with
    | true => exact Or.inl rfl
    | false =>
      have := unsigned_lo t hsg
      have := hfs.1
      exact Or.inr (by omega)
  obtain ⟨hfd, hfj⟩ := fits_slice_offset h0 hs0 hc hst hstep hj heq hsg
  rw [getitemInf_eq c start step j hstep heq]
  exact getitemCoord_ok hst hfs hstep heq hfd hfj

/-- `x[5::-1]` on `uint8` coordinates: `OverflowError` instead of position 2 -/
theorem getitem_counterexample : ¬ Statement_getitem := by
  intro h
  have := h u8 3 5 (-1) 2 (by decide) (by decide) (by decide) (by decide) (by decide) (by decide) (by decide)
  revert this
  decide

/-- non-vacuity of `getitem_partial`: `x[9:1:-2]` on `int8` coordinates, element 5 is at position 2 -/
example : getitemCoord i8 5 9 (-2) = .ok 2 ∧ ¬ Excluded_getitem i8 (-2) := by decide

/-- **getitemFixed_width_independent.** With the proposed fix (arithmetic in `intp`, result cast back) the
full statement holds for every dtype, with no condition on the step beyond fitting in `intp`. -/
theorem getitemFixed_width_independent (t : IdxTy) (c start step j : Int) (h0 : 0 ≤ c) (hs0 : 0 ≤ start)
    (hc : t.fits c) (hc64 : intp.fits c) (hst : intp.fits start) (hfs : intp.fits step) (hstep : step ≠ 0)
    (hj : 0 ≤ j) (heq : c = start + j * step) (hjc : j ≤ c ∨ t.fits j) :
    getitemCoordFixed t c start step = .ok (getitemCoordInf c start step) := by
  obtain ⟨hfd, hfj64⟩ := fits_slice_offset h0 hs0 hc64 hst hstep hj heq (Or.inl rfl)
  have hfj : t.fits j := by
    rcases hjc with h | h
    · exact fits_of_nonneg_le hc hj h
    · exact h
  -- the `intp` part is `getitemCoord intp`; the position is then cast back to `t`
  have hq := getitemCoord_ok hst hfs hstep heq hfd hfj64
  unfold getitemCoord at hq
  unfold getitemCoordFixed
  rw [getitemInf_eq c start step j hstep heq, castTo_of_fits hc64, ← bind_assoc, hq]
  exact congrArg Except.ok (castTo_of_fits hfj)

/-! ## W2 `_calc_counts_invidx` -/

/-- full statement: the run starts and run lengths returned for the group numbers of an array whose
coordinates are stored in `t` are the true ones -/
def Statement_invidx : Prop :=
  ∀ (t : IdxTy) (groups : List Int), (∀ g ∈ groups, 0 ≤ g ∧ t.fits g) →
    calcCountsInvidx t groups = ((invIdxInf groups).map fun (p : Nat) => (p : Int), (countsInf groups).map fun (p : Nat) => (p : Int))

/-- region of finding F-invidx-dtype: more stored elements than the coordinates' dtype can count -/
def Excluded_invidx (t : IdxTy) (groups : List Int) : Prop := ¬ t.fits groups.length
instance (t : IdxTy) (g : List Int) : Decidable (Excluded_invidx t g) := by unfold Excluded_invidx; infer_instance

/-- **invidx_partial.** When the number of stored elements is representable in the coordinates' dtype the
positions and lengths are exact, for every dtype and every group list. -/
theorem invidx_partial (t : IdxTy) (groups : List Int) (hex : ¬ Excluded_invidx t groups) :
    calcCountsInvidx t groups = ((invIdxInf groups).map fun (p : Nat) => (p : Int), (countsInf groups).map fun (p : Nat) => (p : Int)) := by
  have hn : t.fits groups.length := Classical.not_not.mp hex
  have hpos : ∀ p ∈ invIdxInf groups, p ≤ groups.length := fun p hp => Nat.le_of_lt (invIdxInf_lt groups p hp)
  unfold calcCountsInvidx countsInf
  rw [map_castTo_id t groups.length hn _ hpos,
    map_castTo_id t groups.length hn _ (runCounts_le groups.length _ hpos)]

/-- 257 stored elements in two groups (256 + 1) with `uint8` coordinates: the second group is reported
to start at position 0 instead of 256 (`x.sum(axis=1)` then adds the wrong elements) -/
theorem invidx_counterexample : ¬ Statement_invidx := by
  intro h
  have hg : ∀ g ∈ List.replicate 256 (0 : Int) ++ [1], 0 ≤ g ∧ u8.fits g := by
    intro g hg
    rcases List.mem_append.mp hg with hg | hg
    · rw [(List.mem_replicate.mp hg).2]; decide
    · rw [List.mem_singleton.mp hg]; decide
  -- the run starts are `[0, 256]` whatever the dtype
  have hinv : invIdxInf (List.replicate 256 (0 : Int) ++ [1]) = [0, 256] :=
    congrArg (List.cons 0) (runStarts_replicate 0 [1] 255 1)
  have := congrArg Prod.fst (h u8 _ hg)
  rw [calcCountsInvidx, hinv] at this
  revert this
  decide

example : calcCountsInvidx u8 [0, 0, 2, 2, 2, 5] = ([0, 2, 5], [2, 3, 1]) ∧ ¬ Excluded_invidx u8 [0, 0, 2, 2, 2, 5] := by decide

/-- **invidxFixed_width_independent.** With `dtype=np.intp` the outputs do not depend on the coordinates'
dtype at all, and are exact for every array that fits in memory. -/
theorem invidxFixed_width_independent (groups : List Int) (hn : intp.fits groups.length) :
    calcCountsInvidxFixed groups = ((invIdxInf groups).map fun (p : Nat) => (p : Int), (countsInf groups).map fun (p : Nat) => (p : Int)) := by
  exact invidx_partial intp groups (fun hex => hex hn)

/-! ## W3 COO `reshape` -/

/-- **reshape_width_independent.** Whatever dtype `reshape` chooses (the operand's, or `min_scalar_type` of
the largest new extent when that does not fit), every coordinate `(linear_loc // strides) % d` it
stores is the unbounded value. -/
theorem reshape_width_independent (t r : IdxTy) (shape : List Int) (lin strides d : Int)
    (hty : reshapeTy t shape = some r) (hd : d ∈ shape) (hpos : 0 < d) :
    reshapeCoord r lin strides d = reshapeCoordInf lin strides d := by
  have hne : shape ≠ [] := by intro h; rw [h] at hd; cases hd
  unfold reshapeTy at hty
  rw [if_neg hne] at hty
  have hr := pyMod_range (pyFloorDiv lin strides) d hpos
  exact castTo_of_fits (fits_of_le_mem (getOutDtype_fits hty) hd hr.1 (Int.le_of_lt hr.2))

/-- `reshape` has no rejection: for every shape an array can have it finds a dtype, and it keeps the
operand's dtype whenever that is wide enough -/
theorem reshape_upcast_exists (t : IdxTy) (shape : List Int) (h : ∀ d ∈ shape, 0 ≤ d ∧ d < 2 ^ 64) :
    (reshapeTy t shape).isSome = true ∧ (Holds t shape → reshapeTy t shape = some t) := by
  unfold reshapeTy
  by_cases hne : shape = []
  · simp [hne]
  · rw [if_neg hne]
    exact getOutDtype_listMax t hne h

example : reshapeTy u8 [2, 300] = some u16 ∧ reshapeCoord u16 599 1 300 = 299 := by decide

/-! ## W4 COO `concatenate` -/

/-- **concatenate_width_independent.** After the upcast the code performs, adding the offset of an operand
to its coordinates neither overflows (`OverflowError`) nor wraps. -/
theorem concatenate_width_independent (t r : IdxTy) (shape : List Int) (c off total : Int)
    (hty : concatTy t shape = some r) (htot : total ∈ shape) (h0 : 0 ≤ c) (hoff : 0 ≤ off) (hlt : c + off < total) :
    concatCoord r c off = .ok (c + off) := by
  have hfit : r.fits total := fits_of_listMax (getOutDtype_fits hty) htot (by omega)
  unfold concatCoord
  split
  · rename_i hz
    rw [hz, Int.add_zero, castTo_of_fits (fits_of_nonneg_le hfit h0 (by omega))]
  · exact castAdd_exact r total hfit c off h0 hoff (Int.le_of_lt hlt)

/-- `concatenate` has no rejection either: a dtype is always found, the operands' own when it is wide enough -/
theorem concatenate_upcast_exists (t : IdxTy) (shape : List Int) (hne : shape ≠ []) (h : ∀ d ∈ shape, 0 ≤ d ∧ d < 2 ^ 64) :
    (concatTy t shape).isSome = true ∧ (Holds t shape → concatTy t shape = some t) := by
  exact getOutDtype_listMax t hne h

example : concatTy i8 [200, 3] = some u8 ∧ concatCoord u8 99 100 = .ok 199 := by decide

/-! ## W5 COO `roll` -/

/-- **roll_width_independent.** When `roll`'s guard passes (and the in-place addition is not the
`unsigned += np.int64` form, which the code turns into a `ValueError`), every rolled coordinate equals the
unbounded `(c + shift) mod n`, for any number of shifts on the same axis, in every dtype. -/
theorem roll_width_independent (t : IdxTy) (kind : ShiftKind) (shape : List Int) (steps : List (Int × Int)) (n : Int)
    (shs : List Int) (c : Int) (hg : rollGuard t shape steps = true) (hkind : kind = .pyInt ∨ t.signed = true)
    (hn : n ∈ shape) (hsteps : ∀ sh ∈ shs, (sh, n) ∈ steps) (hc0 : 0 ≤ c) (hcn : c < n) :
    roll t kind shape steps n shs c = .ok (rollAxisInf n shs c) := by
  obtain ⟨hshape, hlim⟩ := rollGuard_fits hg
  unfold roll
  rw [if_pos hg]
  exact rollAxis_exact t kind n shs (hshape n hn) (fun sh hsh => hlim (sh, n) (hsteps sh hsh)) hkind c hc0 hcn

/-- **roll_guard_rejects_cleanly.** When the guard fails `roll` raises `ValueError`, whatever the inputs. -/
theorem roll_guard_rejects_cleanly (t : IdxTy) (kind : ShiftKind) (shape : List Int) (steps : List (Int × Int)) (n : Int)
    (shs : List Int) (c : Int) (hg : rollGuard t shape steps = false) :
    roll t kind shape steps n shs c = .error .value := by
  unfold roll; simp [hg]

/-- the second rejection: an unsigned dtype with a broadcast (`np.int64`) shift ends in `ValueError` too,
never in a wrapped value -/
theorem roll_unsigned_np_rejects_cleanly (t : IdxTy) (shape : List Int) (steps : List (Int × Int)) (n sh : Int)
    (rest : List Int) (c : Int) (hu : t.signed = false) :
    roll t .npInt64 shape steps n (sh :: rest) c = .error .value := by
  unfold roll
  split
  · rw [rollAxis, rollStepW, rollAdd_unsigned_np t hu]
    rfl
  · rfl

example : roll i8 .npInt64 [100] [(27, 100)] 100 [27] 99 = .ok 26 ∧ rollGuard i8 [100] [(27, 100)] = true := by decide
example : roll i8 .pyInt [100] [(28, 100)] 100 [28] 99 = .error .value := by decide

/-! ## W6 COO `flip` -/

/-- **flip_width_independent.** (No guard.)  For a dtype that holds the extent, `n - 1 - c` is exact. -/
theorem flip_width_independent (t : IdxTy) (n c : Int) (hn : t.fits n) (h0 : 0 ≤ c) (hc : c < n) :
    flipCoord t n c = .ok (n - 1 - c) := by
  have h1 : t.fits (n - 1) := fits_of_nonneg_le hn (by omega) (by omega)
  have h2 : t.fits (n - 1 - c) := fits_of_nonneg_le hn (by omega) (by omega)
  rw [flipCoord, pyArr, if_pos h1, Op.eval, wrap_of_fits h2]

example : flipCoord u8 255 0 = .ok 254 := by decide

/-! ## W7 `kron`, W8 `pad`: array ∘ int64 array -/

/-- region of finding F-uint64: an unsigned 64-bit index type, which NumPy promotes with `intp` to `float64` -/
def Excluded_uint64 (t : IdxTy) : Prop := t.signed = false ∧ 64 ≤ t.bits
instance (t : IdxTy) : Decidable (Excluded_uint64 t) := by unfold Excluded_uint64; infer_instance

/-- **kron_width_independent.** For operand dtypes other than `uint64`, the coordinates `ca * nb + cb` are
computed in `intp` and are exact whenever the result's extent is addressable. -/
theorem kron_width_independent (ta tb : IdxTy) (ca nb cb : Int) (ha : ¬ Excluded_uint64 ta) (hb : ¬ Excluded_uint64 tb)
    (hba : ta.bits ≤ 64) (hbb : tb.bits ≤ 64) (hprod : intp.fits (ca * nb)) (hres : intp.fits (ca * nb + cb)) :
    kronCoord ta tb ca nb cb = some (intp, ca * nb + cb) := by
  have hmul : arrNp ta intp .mul ca nb = some (intp, ca * nb) := arrNp_intp ta .mul ca nb ha hba rfl hprod
  simp only [kronCoord, hmul, bind, Option.bind, (promote_intp tb hb hbb).2, pure, wrap_of_fits hres]

/-- with `uint64` coordinates the product is a `float64` array: no integer index comes out -/
theorem kron_uint64_is_float (tb : IdxTy) (ca nb cb : Int) : kronCoord u64 tb ca nb cb = none := rfl

/-- **pad_width_independent.** For a coordinates' dtype other than `uint64`, `coords + pad_before` is computed in `intp`
and is exact whenever the padded extent is addressable. -/
theorem pad_width_independent (t : IdxTy) (c before : Int) (ht : ¬ Excluded_uint64 t) (hbits : t.bits ≤ 64)
    (hres : intp.fits (c + before)) : padCoord t c before = some (intp, c + before) := by
  exact arrNp_intp t .add c before ht hbits rfl hres

/-- with `uint64` coordinates the padded coordinates are a `float64` array -/
theorem pad_uint64_is_float (c before : Int) : padCoord u64 c before = none := rfl

example : kronCoord u8 i8 200 100 99 = some (intp, 20099) ∧ padCoord u8 255 3 = some (intp, 258) := by decide

/-! ## W9 `triu` / `tril` -/

def Statement_triu : Prop :=
  ∀ (t : IdxTy) (c0 c1 k : Int), 0 ≤ c0 → 0 ≤ c1 → t.fits c0 → t.fits c1 →
    triuKeep t c0 c1 k = .ok (decide (c0 + k ≤ c1)) ∧ trilKeep t c0 c1 k = .ok (decide (c0 + k ≥ c1))

/-- region of finding F-triu-k: the diagonal offset, or a row coordinate plus the offset, is not
representable in the coordinates' dtype -/
def Excluded_triu (t : IdxTy) (c0 k : Int) : Prop := ¬ t.fits k ∨ ¬ t.fits (c0 + k)
instance (t : IdxTy) (c0 k : Int) : Decidable (Excluded_triu t c0 k) := by unfold Excluded_triu; infer_instance

/-- **triu_partial.** Outside the excluded region the masks of `triu` and `tril` are the true comparisons. -/
theorem triu_partial (t : IdxTy) (c0 c1 k : Int) (hex : ¬ Excluded_triu t c0 k) :
    triuKeep t c0 c1 k = .ok (decide (c0 + k ≤ c1)) ∧ trilKeep t c0 c1 k = .ok (decide (c0 + k ≥ c1)) := by
  unfold Excluded_triu at hex
  have hk : t.fits k := Classical.not_not.mp (fun h => hex (Or.inl h))
  have hs : t.fits (c0 + k) := Classical.not_not.mp (fun h => hex (Or.inr h))
  unfold triuKeep trilKeep
  rw [arrPy_ok t .add c0 k hk rfl hs]
  exact ⟨rfl, rfl⟩

/-- `int8` coordinates, element (100, 0), `triu(x, k=100)`: `100 + 100` wraps to `-56 ≤ 0`, the element is
kept although it lies below the 100-th diagonal.  (`uint8`, `k = -1` raises `OverflowError` instead.) -/
theorem triu_counterexample : ¬ Statement_triu := by
  intro h
  have := (h i8 100 0 100 (by decide) (by decide) (by decide) (by decide)).1
  revert this
  decide

example : triuKeep u8 3 2 (-1) = .error .overflow ∧ triuKeep i8 3 2 (-1) = .ok true ∧ ¬ Excluded_triu i8 3 (-1) := by decide

/-- **triuFixed_width_independent.** With the row coordinate widened to `intp` first, the masks are exact for
every coordinates' dtype. -/
theorem triuFixed_width_independent (c0 c1 k : Int) (hc : intp.fits c0) (hk : intp.fits k) (hs : intp.fits (c0 + k)) :
    triuKeepFixed c0 c1 k = .ok (decide (c0 + k ≤ c1)) ∧ trilKeepFixed c0 c1 k = .ok (decide (c0 + k ≥ c1)) := by
  unfold triuKeepFixed trilKeepFixed
  rw [castTo_of_fits hc]
  exact triu_partial intp c0 c1 k (fun hex => hex.elim (fun h => h hk) (fun h => h hs))

/-! ## W10 GCXS index dtype (`_from_coo`, `_transpose`, `_1d_reshape`) -/

/-- **gcxs_width_independent.** Whatever index dtype is accepted or chosen for a GCXS array, every row
number, column number and `indptr` entry stored in it is exact. -/
theorem gcxs_width_independent (req : Option IdxTy) (t r : IdxTy) (rows cols nnz v : Int)
    (h : gcxsTy req t rows cols nnz = .ok (some r)) (h0 : 0 ≤ v) (hv : v ≤ rows ∨ v ≤ cols ∨ v ≤ nnz) :
    gcxsStore r v = v := by
  exact castTo_of_fits (fits_of_nonneg_le (gcxsTy_fits h) h0 (by omega))

/-- **gcxs_guard_rejects_cleanly.** A requested `idx_dtype` that cannot hold `max(rows, cols, nnz)` is refused
with `ValueError`. -/
theorem gcxs_guard_rejects_cleanly (i t : IdxTy) (rows cols nnz : Int) (h : canStore i (max (max rows cols) nnz) = false) :
    gcxsTy (some i) t rows cols nnz = .error .value := by
  simp only [gcxsTy, h, Bool.false_eq_true, if_false]

example : gcxsTy none i8 3 126 130 = .ok (some u8) ∧ gcxsTy (some i8) i8 3 126 130 = .error .value := by decide

/-! ## W11 GCXS `concatenate` / `stack` -/

def Statement_gcxsJoin : Prop :=
  ∀ (tp r : IdxTy) (totalNnz rows : Int), 0 ≤ totalNnz → 0 ≤ rows → joinIndptrTy tp totalNnz rows = some r →
    (∀ p off, 0 ≤ p → 0 ≤ off → p + off ≤ totalNnz → joinIndptrEntry r p off = .ok (p + off)) ∧
    (∀ i, 0 ≤ i → i < rows → uncompressRow r i = i)

/-- region of finding F-gcxs-join-rows: the joined array has more rows than its `indptr` dtype can number -/
def Excluded_gcxsJoin (r : IdxTy) (rows : Int) : Prop := ¬ r.fits rows
instance (r : IdxTy) (rows : Int) : Decidable (Excluded_gcxsJoin r rows) := by unfold Excluded_gcxsJoin; infer_instance

/-- **gcxsJoin_partial.** The `indptr` entries are always exact after the upcast the code performs; the row
numbers derived from `indptr` later are exact when the row count is representable too. -/
theorem gcxsJoin_partial (tp r : IdxTy) (totalNnz rows : Int)
    (hty : joinIndptrTy tp totalNnz rows = some r) (hex : ¬ Excluded_gcxsJoin r rows) :
    (∀ p off, 0 ≤ p → 0 ≤ off → p + off ≤ totalNnz → joinIndptrEntry r p off = .ok (p + off)) ∧
    (∀ i, 0 ≤ i → i < rows → uncompressRow r i = i) := by
  have hfit := getOutDtype_fits hty
  have hrows : r.fits rows := Classical.not_not.mp hex
  exact ⟨fun p off hp ho hle => castAdd_exact r totalNnz hfit p off hp ho hle,
    fun i hi hlt => castTo_of_fits (fits_of_nonneg_le hrows hi (by omega))⟩

/-- two `int8` GCXS arrays of 100 rows and one stored element each: `indptr` stays `int8` (it holds 2), the
200 rows do not; row 199 is numbered `-57` -/
theorem gcxsJoin_counterexample : ¬ Statement_gcxsJoin := by
  intro h
  have := (h i8 i8 2 200 (by decide) (by decide) (by decide)).2 199 (by decide) (by decide)
  revert this
  decide

/-- **gcxsJoinFixed_width_independent.** With `needed = max(total_nnz, rows)` the full statement holds. -/
theorem gcxsJoinFixed_width_independent (tp r : IdxTy) (totalNnz rows : Int)
    (hty : joinIndptrTyFixed tp totalNnz rows = some r) :
    (∀ p off, 0 ≤ p → 0 ≤ off → p + off ≤ totalNnz → joinIndptrEntry r p off = .ok (p + off)) ∧
    (∀ i, 0 ≤ i → i < rows → uncompressRow r i = i) := by
  have hfit := getOutDtype_fits hty
  exact ⟨fun p off hp ho hle => castAdd_exact r _ hfit p off hp ho (by omega),
    fun i hi hlt => castTo_of_fits (fits_of_nonneg_le hfit hi (by omega))⟩

/-! ## W12 `idx_dtype=` (COO constructor, `from_numpy`, `random`) -/

/-- **idxCast_width_independent.** When the `idx_dtype` guard (`can_store(idx_dtype, max(shape))`) passes, casting a
coordinate to the requested dtype returns the coordinate. -/
theorem idxCast_width_independent (t : IdxTy) (shape : List Int) (c n : Int) (hg : canStore t (listMax shape) = true)
    (hn : n ∈ shape) (h0 : 0 ≤ c) (hc : c < n) : idxCast t shape c = .ok c := by
  rw [idxCast, if_pos hg, castTo_of_fits (fits_of_le_mem (canStore_iff.mp hg) hn h0 (Int.le_of_lt hc))]

/-- **idxCast_guard_rejects_cleanly.** When it fails the call raises `ValueError`. -/
theorem idxCast_guard_rejects_cleanly (t : IdxTy) (shape : List Int) (c : Int) (hg : canStore t (listMax shape) = false) :
    idxCast t shape c = .error .value := by
  simp [idxCast, hg]

example : idxCast u8 [3, 255] 254 = .ok 254 ∧ idxCast u8 [3, 256] 254 = .error .value := by decide

/-! ## W13 numba (un)boxing of `shape` -/

/-- **boxShape_width_independent.** Under the property's precondition (the dtype holds the shape) the shape
seen inside compiled code is the shape. -/
theorem boxShape_width_independent (t : IdxTy) (shape : List Int) (h : Holds t shape) : boxShape t shape = shape := by
  unfold boxShape
  have : shape.map (castTo t) = shape.map id := List.map_congr_left fun d hd => wrap_of_fits (h d hd)
  rw [this, List.map_id]

/-- the weaker precondition "every *coordinate* of the shape is representable" (which is all the COO
constructor needs of a user-supplied coordinate array) -/
def Statement_boxShape_coordsFit : Prop :=
  ∀ (t : IdxTy) (shape : List Int), (∀ d ∈ shape, 0 < d ∧ t.fits (d - 1)) → boxShape t shape = shape

/-- region of finding F-numba-shape: an extent that the coordinates' dtype cannot hold -/
def Excluded_boxShape (t : IdxTy) (shape : List Int) : Prop := ¬ ∀ d ∈ shape, t.fits d

/-- `COO(uint8 coords, shape=(256,))` is unboxed with shape `(0,)` -/
theorem boxShape_counterexample : ¬ Statement_boxShape_coordsFit := by
  intro h
  have := h u8 [256] (by decide)
  revert this
  decide

/-- outside the excluded region boxing preserves the shape (this is `boxShape_width_independent`) -/
theorem boxShape_partial (t : IdxTy) (shape : List Int) (hex : ¬ Excluded_boxShape t shape) : boxShape t shape = shape :=
  boxShape_width_independent t shape (Classical.not_not.mp hex)

/-- **boxShapeFixed_width_independent.** With the shape boxed as `intp` the coordinates' dtype plays no role. -/
theorem boxShapeFixed_width_independent (shape : List Int) (h : Holds intp shape) : boxShapeFixed shape = shape :=
  boxShape_width_independent intp shape h

/-! ## W14 GCXS reductions: row numbers of the regrouped array -/

def Statement_reduceRowIds : Prop := ∀ (tp : IdxTy) (rows : Nat), reduceRowIds tp rows = (List.range rows).map fun (i : Nat) => (i : Int)

/-- region of finding F-gcxs-reduce-rows: the regrouped array has more rows than the *original* array's
`indptr` dtype can number -/
def Excluded_reduceRowIds (tp : IdxTy) (rows : Nat) : Prop := ¬ tp.fits rows
instance (tp : IdxTy) (rows : Nat) : Decidable (Excluded_reduceRowIds tp rows) := by unfold Excluded_reduceRowIds; infer_instance

/-- **reduceRowIds_partial.** The row numbers are exact when the row count of the regrouped array is representable in
the original array's `indptr` dtype. -/
theorem reduceRowIds_partial (tp : IdxTy) (rows : Nat) (hex : ¬ Excluded_reduceRowIds tp rows) :
    reduceRowIds tp rows = (List.range rows).map fun (i : Nat) => (i : Int) := by
  exact map_castTo_id tp rows (Classical.not_not.mp hex) _ (fun p hp => Nat.le_of_lt (List.mem_range.mp hp))

/-- `uint8` indptr, 258 rows after regrouping: rows 256 and 257 are numbered 0 and 1 -/
theorem reduceRowIds_counterexample : ¬ Statement_reduceRowIds := by
  intro h
  -- compare the numbers given to row 256
  have := congrArg (fun l => l[256]?) (h u8 258)
  simp only [reduceRowIds, List.getElem?_map, List.getElem?_range (by decide : 256 < 258), Option.map] at this
  revert this
  decide

/-- **reduceRowIdsFixed_width_independent.** -/
theorem reduceRowIdsFixed_width_independent (rows : Nat) (h : intp.fits rows) :
    reduceRowIdsFixed rows = (List.range rows).map fun (i : Nat) => (i : Int) := by
  exact reduceRowIds_partial intp rows (fun hex => hex h)

/-! ## W15 GCXS `getitem` keys -/

def Statement_gcxsKey : Prop := ∀ (t : IdxTy) (k : Int), t.fits k → gcxsKey t k = .ok k

/-- region of finding F-gcxs-getitem-unsigned: an unsigned `indices` dtype -/
def Excluded_gcxsKey (t : IdxTy) : Prop := t.signed = false
instance (t : IdxTy) : Decidable (Excluded_gcxsKey t) := by unfold Excluded_gcxsKey; infer_instance

/-- **gcxsKey_partial.** For a signed `indices` dtype the keys reach the kernels unchanged. -/
theorem gcxsKey_partial (t : IdxTy) (k : Int) (hk : t.fits k) (hex : ¬ Excluded_gcxsKey t) : gcxsKey t k = .ok k := by
  rw [gcxsKey, if_pos (Bool.not_eq_false _ ▸ hex), castTo_of_fits hk]

/-- `uint8` indices: numba cannot type the kernel; the call dies with an internal error -/
theorem gcxsKey_counterexample : ¬ Statement_gcxsKey := by
  intro h
  have := h u8 1 (by decide)
  revert this
  decide

/-- **gcxsKeyFixed_width_independent.** With keys and flat positions in `intp` the indices' dtype plays no role. -/
theorem gcxsKeyFixed_width_independent (k : Int) (hk : intp.fits k) : gcxsKeyFixed k = .ok k :=
  gcxsKey_partial intp k hk (by decide)

/-- how the library itself reaches the excluded region: flattening an array of `2 ^ 32` elements whose
coordinates are `int32` (`x.sum()`, `x.reshape(-1)` of a 65536 × 65536 array) makes `reshape` choose
`np.min_scalar_type(2 ^ 32) = uint64` -/
theorem reshape_reaches_uint64 : reshapeTy i32 [4294967296] = some u64 ∧ Excluded_uint64 u64 := by decide

/-! ## W16 `uint64` index arrays -/

/-- **storedTy_fixed_not_uint64.** With the proposed fix no array keeps an unsigned 64-bit index dtype, so the
excluded region of `kron_width_independent` / `pad_width_independent` (and of everything else NumPy would
promote to `float64`) is never entered; every other dtype is kept as it is. -/
theorem storedTy_fixed_not_uint64 (t : IdxTy) :
    ¬ Excluded_uint64 (storedTy true t) ∧ (¬ Excluded_uint64 t → storedTy true t = t) := by
  unfold storedTy Excluded_uint64
  cases hs : t.signed with
  | true => simp [hs]
  | false =>
    by_cases hb : 64 ≤ t.bits
    · simp [hb, i64]
    · simp [hb]

/-- **storedCoord_width_independent.** Storing a coordinate that the given dtype holds (and that is addressable)
is exact with and without the fix. -/
theorem storedCoord_width_independent (fixed : Bool) (t : IdxTy) (c : Int) (hc : t.fits c) (h64 : intp.fits c) :
    storedCoord fixed t c = c := by
  unfold storedCoord storedTy castTo
  split
  · exact wrap_of_fits h64
  · exact wrap_of_fits hc

example : storedTy true u64 = intp ∧ storedTy false u64 = u64 ∧ storedTy true u8 = u8 ∧ Excluded_uint64 u64 := by decide

end SparseV.C15
