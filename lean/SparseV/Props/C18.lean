/-
  Property C18 — every call terminates, and invalid arguments are rejected cleanly.

  (a) rejection decision logic, over the GENERATED validators `Gen.normalizeAxisInt`, `Gen.checkIndexInt`,
      `Gen.bcastOk` (tie T1: an edit to `_utils.normalize_axis`, `_slicing.check_index`, `_umath._get_broadcast_shape`
      changes the definitions these theorems are checked against) and the small models of `Model/Validate.lean`;
  (b) termination: every function of `SparseV.Model` is a total Lean function — Lean accepted structural or well-founded
      recursion for each (a documented fact of the build, not a theorem inside the logic); for the `while` loops of the code
      that are not structurally recursive, explicit fuel-based models with `…_terminates` theorems;
  (c) `no_internal_errors`: no modelled operation returns `Err.internal`; each returns only the clean classes named.

  `error_before_effect` is trivial here and therefore not a theorem: the model operations are pure functions
  `inputs → Except Err result`; an error result contains no partial result and there is no state to modify.
  (For the implementation the same holds for every operation except `DOK.__setitem__`, which is property C12's.)
-/
import SparseV.Lemmas.Validate
import SparseV.Lemmas.Loops
import SparseV.Lemmas.NoInternal
import SparseV.Lemmas.Gen.Bcast
import SparseV.Lemmas.Gen.Ctor
import SparseV.Lemmas.Gen.Slicing
import SparseV.Lemmas.MaskCost
import SparseV.Lemmas.Width
import SparseV.Generated.MaskHeuristic
import SparseV.Generated.Compressed
namespace SparseV.C18
open SparseV SparseV.Validate

/-- **rejects_iff_numpy_rejects_axis.** `normalize_axis` (integer branch, generated) raises exactly when
NumPy does — `axis ∉ [-ndim, ndim)` — and then with `ValueError` (NumPy's `AxisError` is one). -/
theorem rejects_iff_numpy_rejects_axis (axis ndim : Int) :
    (Gen.normalizeAxisInt axis ndim = .error Err.value ↔ ¬ (-ndim ≤ axis ∧ axis < ndim)) ∧
    (∀ e, Gen.normalizeAxisInt axis ndim = .error e → e = Err.value) := by
  rw [normalizeAxisInt_eq]
  exact ite_ok_error_spec

/-- **rejects_iff_numpy_rejects_index.** `check_index` (integer branch, generated) raises exactly when
NumPy does — `i ∉ [-dim, dim)` — and then with `IndexError`. -/
theorem rejects_iff_numpy_rejects_index (i dim : Int) :
    (Gen.checkIndexInt i dim = .error Err.index ↔ ¬ (-dim ≤ i ∧ i < dim)) ∧
    (∀ e, Gen.checkIndexInt i dim = .error e → e = Err.index) := by
  rw [Gen.checkIndexInt_eq, Ref.checkIndexInt]
  exact ite_ok_error_spec

example : Gen.normalizeAxisInt (-3) 2 = .error Err.value ∧ Gen.normalizeAxisInt (-2) 2 = .ok 0 := by
  simp [Gen.normalizeAxisInt_eq, Ref.normalizeAxisInt]
example : Gen.checkIndexInt 3 3 = .error Err.index ∧ Gen.checkIndexInt (-3) 3 = .ok () := by
  simp [Gen.checkIndexInt_eq, Ref.checkIndexInt]

/-- **rejects_iff_numpy_rejects_axes.** An axis tuple of a reduction is accepted iff every entry is in `[-ndim, ndim)` and no
axis is named twice after normalisation (NumPy: "duplicate value in 'axis'"); every rejection is a `ValueError`. -/
theorem rejects_iff_numpy_rejects_axes (axes : List Int) (ndim : Nat) :
    ((∃ vs, reduceAxes axes ndim = .ok vs) ↔
      (∀ a ∈ axes, -(ndim : Int) ≤ a ∧ a < ndim) ∧ (axes.map (normAxis ndim)).Nodup) ∧
    (∀ e, reduceAxes axes ndim = .error e → e = Err.value) := by
  unfold reduceAxes
  rw [normalizeAxes_eq]
  by_cases hall : ∀ a ∈ axes, -(ndim : Int) ≤ a ∧ a < ndim
  · rw [if_pos hall]
    exact ⟨Accepts.dite (fun hn => .ok ⟨hall, hn⟩) fun hn => .error fun h => hn h.2, Raises.ite .ok (.error rfl)⟩
  · rw [if_neg hall]
    exact ⟨Accepts.error fun h => hall h.1, Raises.error rfl⟩

/-- **rejects_iff_numpy_rejects_transpose.** `COO.transpose(axes)` accepts exactly the permutations of the axes (entries in
`[-ndim, ndim)`, distinct after normalisation, one per dimension); every rejection is a `ValueError`. -/
theorem rejects_iff_numpy_rejects_transpose (axes : List Int) (ndim : Nat) :
    ((∃ vs, transposeAxes (some axes) ndim = .ok vs) ↔ npTransposeOk axes ndim) ∧
    (∀ e, transposeAxes (some axes) ndim = .error e → e = Err.value) := by
  unfold transposeAxes npTransposeOk
  dsimp only
  rw [normalizeAxes_eq]
  by_cases hall : ∀ a ∈ axes, -(ndim : Int) ≤ a ∧ a < ndim
  · rw [if_pos hall]
    dsimp only
    rw [List.length_map]
    exact ⟨Accepts.dite (fun hn => .error fun h => hn h.2.1) fun hn => .dite (fun hl => .error fun h => hl h.2.2) fun hl =>
        .ok ⟨hall, Classical.not_not.mp hn, Classical.not_not.mp hl⟩,
      Raises.ite (.error rfl) (.ite (.error rfl) .ok)⟩
  · rw [if_neg hall]
    exact ⟨Accepts.error fun h => hall h.1, Raises.error rfl⟩

example : npTransposeOk [-1, 0] 2 ∧ ¬ npTransposeOk [0, -2] 2 ∧ ¬ npTransposeOk [0] 2 := by decide

/-- **rejects_iff_numpy_rejects_broadcast.** `_get_broadcast_shape` (the generated per-pair rule folded over the right-aligned
pairs) raises exactly when some right-aligned pair of extents is incompatible — different and neither equal to 1 — which is
NumPy's rule; every rejection is a `ValueError`. -/
theorem rejects_iff_numpy_rejects_broadcast (s1 s2 : List Nat) :
    (bshape2 s1 s2 false = .error Err.value ↔ ∃ p ∈ List.zip s1.reverse s2.reverse, p.1 ≠ p.2 ∧ p.1 ≠ 1 ∧ p.2 ≠ 1) ∧
    (∀ e, bshape2 s1 s2 false = .error e → e = Err.value) := by
  refine ⟨?_, bshape2_error _ _ _⟩
  unfold bshape2
  simp only [Bool.false_and, Bool.false_eq_true, if_false]
  split
  · rename_i hall
    simp only [reduceCtorEq, false_iff, not_exists, not_and]
    intro p hp h1 h2
    have := List.all_eq_true.mp hall p hp
    simp only [Gen.bcastOk_iff, and_true] at this
    omega
  · rename_i hall
    simp only [true_iff]
    simp only [List.all_eq_true, Classical.not_forall] at hall
    obtain ⟨p, hp, hbad⟩ := hall
    refine ⟨p, hp, ?_⟩
    simp only [Gen.bcastOk_iff, and_true, not_or] at hbad
    omega

example : bshape2 [2, 3] [3] false = .ok [2, 3] ∧ bshape2 [2, 3] [2] false = .error Err.value := by
  constructor <;> rfl

/-- **rejects_iff_numpy_rejects_reshape.** For EVERY array shape and EVERY target shape, `COO.reshape` accepts exactly the
targets NumPy accepts (`_fix_unknown_dimension`: at most one unknown extent, the product of the others non-zero and dividing
the size; without an unknown extent the products agree) that have no extent below `-1`, and every rejection is a `ValueError`.
(NumPy reads every negative extent as "unknown"; the library knows only `-1` and rejects `-2`, `-3`, … cleanly — stricter than
NumPy, which the property allows.  Before the repair 999f0e4 this held only outside `ExcludedSeveralUnknown` and
`ExcludedInfExtent`.) -/
theorem rejects_iff_numpy_rejects_reshape (old : List Nat) (shape : List Int) :
    ((∃ s, reshapeShape old shape = .ok s) ↔ npReshapeOk old shape ∧ ¬ OtherNegative shape) ∧
    (∀ e, reshapeShape old shape = .error e → e = Err.value) :=
  reshapeShape_spec old shape

/-- the property's statement for `reshape`: every target shape NumPy rejects is rejected, and every rejection — of whatever
target — is a `ValueError` -/
def Statement_reshape_rejects_what_numpy_rejects : Prop :=
  ∀ (old : List Nat) (shape : List Int),
    (¬ npReshapeOk old shape → ∃ e, reshapeShape old shape = .error e) ∧
    (∀ e, reshapeShape old shape = .error e → e = Err.value)

/-- **reshape_rejects_what_numpy_rejects.** The full statement holds, with no excluded region. -/
theorem reshape_rejects_what_numpy_rejects : Statement_reshape_rejects_what_numpy_rejects := by
  intro old shape
  obtain ⟨h1, h2⟩ := reshapeShape_spec old shape
  refine ⟨fun hno => ?_, h2⟩
  cases h : reshapeShape old shape with
  | error e => exact ⟨e, rfl⟩
  | ok s => exact absurd (h1.mp ⟨s, h⟩).1 hno

/-- **reshape_retired_witnesses_rejected.** The witnesses of the two repaired defects are now rejected with `ValueError`:
several `-1` that "happen to match" (`(1,) → (-1,-1)`, `(3,) → (-1,-1,3)`, `(2,3) → (-1,-1,6)`) and a `-1` next to a zero extent on a
non-empty array (`(3,3) → (-1,0)`, formerly `int(inf)`: `OverflowError`; `() → (0,-1)`). -/
theorem reshape_retired_witnesses_rejected :
    reshapeShape [1] [-1, -1] = .error Err.value ∧ reshapeShape [3] [-1, -1, 3] = .error Err.value ∧
    reshapeShape [2, 3] [-1, -1, 6] = .error Err.value ∧
    reshapeShape [3, 3] [-1, 0] = .error Err.value ∧ reshapeShape [] [0, -1] = .error Err.value ∧
    ¬ npReshapeOk [1] [-1, -1] ∧ ¬ npReshapeOk [3, 3] [-1, 0] := by decide

/-- **reshape_other_negative_stricter.** the one remaining difference to NumPy: `-2` is NumPy's unknown extent; the library
rejects it (cleanly) -/
theorem reshape_other_negative_stricter :
    reshapeShape [4] [-2, 2] = .error Err.value ∧ npReshapeOk [4] [-2, 2] ∧ OtherNegative [-2, 2] := by decide

example : npReshapeOk [2, 3] [2, -1] ∧ ¬ OtherNegative [2, -1] ∧
    (reshapeShape [2, 3] [2, -1]).toOption = some [2, 3] ∧ (reshapeShape [2, 3] [4, -1]).toOption = none ∧
    (reshapeShape [0, 3] [-1, 5]).toOption = some [0, 5] := by decide

/-- the full statement for the COO constructor (1-d `data` of length `n`, integer `coords` of shape `(rows, cols)`) -/
def Statement_ctor_rejects_malformed : Prop :=
  ∀ (rows cols n : Nat) (sh : List Int),
    ((∃ r, cooCtor rows cols 1 n (some sh) = .ok r) ↔ ctorContract rows cols n sh) ∧
    (∀ e, cooCtor rows cols 1 n (some sh) = .error e → e = Err.value)

/-- **ctor_rejects_malformed.** For EVERY shape — `()` included (the two length tests sat under `if self.shape:` before the
repair 22a856d) — the constructor accepts exactly the inputs of its contract (non-negative extents, one coordinate row per
axis, one datum per coordinate column — or no coordinates and no data for a shape with an axis), and every rejection is a
`ValueError`. -/
theorem ctor_rejects_malformed : Statement_ctor_rejects_malformed :=
  fun rows cols n sh => ⟨cooCtor_accepts rows cols n sh, cooCtor_error rows cols 1 n (some sh)⟩

/-- **ctor_retired_witness_rejected.** the witnesses of the repaired defect: `COO(coords of shape (0, 3), data of length 1,
shape=())` and `COO(np.zeros((0, 1)), [3, 2], shape=())` are rejected with `ValueError`; the contract rejects them too -/
theorem ctor_retired_witness_rejected :
    cooCtor 0 3 1 1 (some []) = .error Err.value ∧ cooCtor 0 1 1 2 (some []) = .error Err.value ∧
    ¬ ctorContract 0 3 1 [] ∧ ¬ ctorContract 0 1 2 [] := by decide

example : ctorContract 2 3 3 [4, 5] ∧ (cooCtor 2 3 1 3 (some [4, 5])).toOption = some [4, 5] ∧
    (cooCtor 2 3 1 2 (some [4, 5])).toOption = none ∧ (cooCtor 1 3 1 3 (some [4, 5])).toOption = none ∧
    (cooCtor 2 3 1 3 (some [4, -5])).toOption = none ∧
    ctorContract 0 1 1 [] ∧ (cooCtor 0 1 1 1 (some [])).toOption = some [] := by decide

/-- the full statement for the GCXS constructor (1-d `data` of length `dataLen`, 1-d integer `indices` and `indptr`): accepted exactly when
the contract `gcxsContract` holds — non-negative extents, admissible `compressed_axes`, one datum per index, index pointers of length
`prod(compressed extents) + 1` running from `0` to `len(indices)` and never decreasing, every index within the extent of the
uncompressed axes.  Deliberately NOT demanded (and not checked by the code): sorted or distinct indices within a row. -/
def Statement_gcxs_ctor_rejects_malformed : Prop :=
  ∀ (dataLen : Nat) (indices indptr sh : List Int) (caxes : Option (List Int)),
    gcxsCtor 1 dataLen indices indptr (some sh) caxes = .ok () ↔ gcxsContract dataLen indices indptr sh caxes

/-- **gcxs_ctor_counterexample_0d.** `GCXS((array([5]), array([0]), array([])), shape=())` is accepted: every test on the three arrays
sits under `len(shape) >= 1`; the contract (a 0-d array has no 1-d indices) rejects it -/
theorem gcxs_ctor_counterexample_0d :
    gcxsCtor 1 1 [0] [] (some []) none = .ok () ∧ ¬ gcxsContract 1 [0] [] [] none ∧ ExcludedZeroDim 1 [0] [] := by decide

theorem not_Statement_gcxs_ctor_rejects_malformed : ¬ Statement_gcxs_ctor_rejects_malformed := by
  intro h
  exact gcxs_ctor_counterexample_0d.2.1 ((h 1 [0] [] [] none).mp gcxs_ctor_counterexample_0d.1)

/-- **gcxs_ctor_rejects_malformed_partial.** For every shape with at least one axis (and for the 0-d shape with no stored data), every
`compressed_axes`, every `indices` and `indptr` — sorted or not, in range or not — the constructor accepts exactly the triples of its
contract.  This covers the lengths, both ends of `indptr`, its monotonicity and the range of every index (748e5d3). -/
theorem gcxs_ctor_rejects_malformed_partial (dataLen : Nat) (indices indptr sh : List Int) (caxes : Option (List Int))
    (hz : ¬ ExcludedZeroDim dataLen indices sh) :
    gcxsCtor 1 dataLen indices indptr (some sh) caxes = .ok () ↔ gcxsContract dataLen indices indptr sh caxes :=
  gcxsCtor_spec dataLen indices indptr sh caxes hz

/-- **gcxs_ctor_accepts_wellformed.** no well-formed triple is turned away, whatever the shape -/
theorem gcxs_ctor_accepts_wellformed (dataLen : Nat) (indices indptr sh : List Int) (caxes : Option (List Int))
    (h : gcxsContract dataLen indices indptr sh caxes) : gcxsCtor 1 dataLen indices indptr (some sh) caxes = .ok () :=
  gcxsCtor_accepts_contract dataLen indices indptr sh caxes h

/-- **gcxs_ctor_error_classes.** Every rejection — any rank of `data`, shape given or not — is a `ValueError`, except the `TypeError`
raised for `compressed_axes=None` with two or more axes (iterating `None`); never an internal class. -/
theorem gcxs_ctor_error_classes (dn dataLen : Nat) (indices indptr : List Int) (shape caxes : Option (List Int)) (e : Err)
    (h : gcxsCtor dn dataLen indices indptr shape caxes = .error e) :
    e = Err.value ∨ (e = Err.type ∧ caxes = none ∧ ∃ sh, shape = some sh ∧ 2 ≤ sh.length) :=
  gcxsCtor_error dn dataLen indices indptr shape caxes e h

/-- **gcxs_ctor_rows_in_bounds.** What acceptance buys the kernels: for an accepted array with two or more axes every index pointer lies
in `[0, len(indices)]`, so no row slice `indices[indptr[i] : indptr[i+1]]` (read without bounds checks in `nopython` mode) leaves the
array, and every index addresses a cell of the uncompressed extent. -/
theorem gcxs_ctor_rows_in_bounds (dataLen : Nat) (indices indptr sh : List Int) (c : List Int) (h2 : 2 ≤ sh.length)
    (h : gcxsCtor 1 dataLen indices indptr (some sh) (some c) = .ok ()) :
    (∀ p ∈ indptr, 0 ≤ p ∧ p ≤ (indices.length : Int)) ∧ (∀ v ∈ indices, 0 ≤ v ∧ v < uncompressedExtent sh c) := by
  have hz : ¬ ExcludedZeroDim dataLen indices sh := by
    rintro ⟨hnil, _⟩; simp [hnil] at h2
  have hr := ((gcxsCtor_spec dataLen indices indptr sh (some c) hz).mp h).rows h2
  exact ⟨indptr_in_bounds indptr _ hr.head hr.last hr.mono, hr.in_range⟩

/-- **gcxs_ctor_retired_witnesses_rejected.** the witnesses of the two repaired constructor defects: wrong lengths / index pointers not
ending at `len(indices)` (5753560) and contents outside the shape — column 3 of a 1-column array, a negative column, a 1-d index
`-1` and `5` of 3, index pointers `[0, 3, 2]` (748e5d3) — are all rejected with `ValueError` -/
theorem gcxs_ctor_retired_witnesses_rejected :
    gcxsCtor 1 1 [0] [0, 1] (some [2, 2]) (some [0]) = .error Err.value ∧
    gcxsCtor 1 2 [0] [0, 1, 1] (some [2, 2]) (some [0]) = .error Err.value ∧
    gcxsCtor 1 1 [0] [0, 2, 2] (some [2, 2]) (some [0]) = .error Err.value ∧
    gcxsCtor 1 1 [0] [1, 1, 1] (some [2, 2]) (some [0]) = .error Err.value ∧
    gcxsCtor 1 1 [3] [0, 1] (some [1, 1]) (some [0]) = .error Err.value ∧
    gcxsCtor 1 3 [4, 0, 0] [0, 1, 2, 3] (some [3, 2]) (some [0]) = .error Err.value ∧
    gcxsCtor 1 1 [-1] [0, 1, 1] (some [2, 2]) (some [0]) = .error Err.value ∧
    gcxsCtor 1 1 [-1] [] (some [3]) none = .error Err.value ∧
    gcxsCtor 1 1 [5] [] (some [3]) none = .error Err.value ∧
    gcxsCtor 1 2 [0, 1] [0, 3, 2] (some [2, 2]) (some [0]) = .error Err.value := by decide

/-- non-vacuity, and what is accepted by design: a well-formed `(2, 2, 3)` array compressed along axis 0 (index 5 = cell `(1, 2)` of the
`2 × 3` uncompressed extent; 6 is outside); a row with a repeated index and a row with descending indices are both accepted -/
example : gcxsContract 1 [5] [0, 1, 1] [2, 2, 3] (some [0]) ∧ gcxsCtor 1 1 [5] [0, 1, 1] (some [2, 2, 3]) (some [0]) = .ok () ∧
    gcxsCtor 1 1 [6] [0, 1, 1] (some [2, 2, 3]) (some [0]) = .error Err.value ∧
    gcxsCtor 1 2 [1, 1] [0, 2] (some [1, 2]) (some [0]) = .ok () ∧ gcxsCtor 1 2 [1, 0] [0, 2] (some [1, 2]) (some [0]) = .ok () ∧
    gcxsCtor 1 1 [0] [0, 1, 1] (some [2, 2]) none = .error Err.type := by decide

/-- **gcxs_ctor_dtype_independent.** Store `indices` in any integer type `ti` and `indptr` in any integer type `tp` (int8 … int64, uint8 …
uint64, the two may differ) that can hold their values: what the constructor reads back are the same integers, and every test of the model —
lengths, ends, the COMPARISON `indptr[1:] < indptr[:-1]`, the range of the indices — is a comparison of stored values, so the verdict is the
verdict on the mathematical integers. -/
theorem gcxs_ctor_dtype_independent (ti tp : IdxTy) (dn dataLen : Nat) (indices indptr : List Int) (shape caxes : Option (List Int))
    (hi : ∀ v ∈ indices, ti.fits v) (hp : ∀ v ∈ indptr, tp.fits v) :
    gcxsCtor dn dataLen (indices.map ti.wrap) (indptr.map tp.wrap) shape caxes = gcxsCtor dn dataLen indices indptr shape caxes := by
  rw [(List.map_congr_left fun v hv => IdxTy.wrap_of_fits (hi v hv)).trans (List.map_id indices),
    (List.map_congr_left fun v hv => IdxTy.wrap_of_fits (hp v hv)).trans (List.map_id indptr)]

/-- **indptr_test_is_the_comparison.** The monotonicity test the constructor performs is the slice comparison — in the translated fragment
`Gen.gcxsCtorChecks` (tools/targets.d/C14.py pins the source text `np.any(self.indptr[1:] < self.indptr[:-1])` to its parameter
`ptrDecreases`; any other spelling is refused and this theorem no longer builds) a triple with consistent lengths and ends is rejected
exactly through that parameter — and the slice comparison finds a decrease in EVERY integer type, because it never computes in the type. -/
theorem indptr_test_is_the_comparison :
    (∀ (ndim sh0 nind rows cols iN imin imax : Int), 2 ≤ ndim →
      Gen.gcxsCtorChecks 1 true ndim sh0 nind nind (rows + 1) rows cols 0 nind true iN imin imax = .error Err.value) ∧
    (∀ (t : IdxTy) (p : List Int), decreasesIn t .sliceCompare p = !(nondecreasing p)) := by
  refine ⟨?_, fun _ _ => rfl⟩
  intro ndim sh0 nind rows cols iN imin imax h2
  rcases Npz.gcxsCtorChecks_cases 1 iN true true ndim sh0 nind nind (rows + 1) rows cols 0 nind imin imax with h | h
  · exact absurd (Npz.gcxsCtorChecks_ok_nondecreasing _ _ _ _ _ _ _ _ _ _ _ _ _ _ _ h2 h) (by decide)
  · exact h

/-- **diff_sign_wraps_unsigned.** What the other spelling would do: `np.diff` of an unsigned array wraps, so index pointers `[0, 3, 1, 3]`
stored as uint8 / uint16 / uint32 show no negative difference and would be accepted again, although they decrease (and the comparison
sees it in every type); in a signed type the difference form sees it too. -/
theorem diff_sign_wraps_unsigned :
    decreasesIn IdxTy.u8 .diffSign [0, 3, 1, 3] = false ∧ decreasesIn IdxTy.u16 .diffSign [0, 3, 1, 3] = false ∧
    decreasesIn IdxTy.u32 .diffSign [0, 3, 1, 3] = false ∧ decreasesIn IdxTy.i8 .diffSign [0, 3, 1, 3] = true ∧
    decreasesIn IdxTy.u8 .sliceCompare [0, 3, 1, 3] = true ∧ decreasesIn IdxTy.u32 .sliceCompare [0, 3, 1, 3] = true ∧
    gcxsCtor 1 3 [0, 1, 0] [0, 3, 1, 3] (some [3, 2]) (some [0]) = .error Err.value := by decide

/-- **linear_filter_loop_terminates.** The first `while` of `get_slicing_selection` (cursors `count`, `col_count`) exits within
`(len(row) − count) + (len(col) − col_count) + 1` steps, for EVERY row and column array — sorted or not: each iteration breaks
or advances a cursor. -/
theorem linear_filter_loop_terminates (row col : List Nat) (fuel count colCount : Nat) (acc : List (Nat × Nat))
    (h : (row.length - count) + (col.length - colCount) < fuel) :
    Loops.linLoop row col fuel count colCount acc ≠ .outOfFuel :=
  Loops.linLoop_fuel row col fuel count colCount acc h

/-- **binary_search_loop_terminates.** The second `while` of `get_slicing_selection` exits within `len(col) − col_count + 1` steps:
the inner skip loop never moves `col_count` backwards and `col_count += 1` closes every iteration that does not break. -/
theorem binary_search_loop_terminates (row col : List Nat) (fuel size colCount : Nat) (acc : List (Nat × Nat))
    (h : col.length - colCount < fuel) :
    Loops.binLoop row col fuel size colCount acc ≠ .outOfFuel :=
  Loops.binLoop_fuel row col fuel size colCount acc h

/-- **get_slicing_selection_terminates.** With the budget `len(row) + len(col) + 1` per row the whole kernel never runs out of
fuel, whatever the index arrays contain: no guard is needed (contrast `_dot_coo_ndarray`, whose inner loop advances only when
the dense operand has at least one column — modelled and witnessed by the C04 check — and `algD`, whose rejection loop
terminates only if the oracle eventually accepts — `SparseV.Create.algD_error`, C19). -/
theorem get_slicing_selection_terminates (indices : Array Nat) (rows : List (Nat × Nat)) (col : Array Nat) :
    Loops.slicingSelection none indices rows col ≠ .outOfFuel := by
  unfold Loops.slicingSelection
  exact Loops.go_fuel _ _ _ _ _ _ _

/-- **get_slicing_selection_memory_safe.** Under the guard the caller establishes (`pos_slice`: the requested columns are
strictly ascending — positive-step slices, `is_sorted` index arrays) no iteration reads outside `current_row`/`col`
(`current_row[size]`, `current_row[-1]`, `col[col_count]`, `current_row[s]`), for every row content and any step budget:
the logical content of memory safety for this `nopython` kernel, which numba does not bounds-check. -/
theorem get_slicing_selection_memory_safe (fuel : Option Nat) (indices : Array Nat) (rows : List (Nat × Nat)) (col : Array Nat)
    (hcol : col.toList.Pairwise (· < ·)) :
    Loops.slicingSelection fuel indices rows col ≠ .oob := by
  unfold Loops.slicingSelection
  exact Loops.go_no_oob _ _ _ hcol _ _ _ _ _

/-- the budget matters: one step is not enough for a row that needs two -/
example : Loops.slicingSelection (some 1) #[1, 2] [(0, 2)] #[1, 2, 3] = .outOfFuel := by decide
/-- a concrete run: rows `[1,2]`, `[5,7]`; columns `2,5,6,7,8` -/
example : Loops.slicingSelection none #[1, 2, 5, 7] [(0, 2), (2, 4)] #[2, 5, 6, 7, 8] = .done [1, 2, 3] [0, 1, 3] [0, 1, 3] := by decide
/-- outside the guard the code guarantees (`col` strictly ascending: `is_sorted`) the second loop reads past the row:
`current_row[size]` with `size = len(current_row)` — numba does not bounds-check in nopython mode -/
example : Loops.slicingSelection none #[1, 2] [(0, 2)] #[2, 1] = .oob := by decide

open MaskCost in
/-- **mask_heuristic_pinned.** The guard of the `while` loop of `_compute_mask` and the definition of `n_current_slices`, as read from the
source on this run (tools/tables.d/C18.py), are the ones the cost statement below is about:
`n_current_slices * np.log(n_current_slices / max(n_pairs, 1)) > n_matches + n_pairs`, `n_current_slices = len(range(…)) * n_pairs + 2`. -/
theorem mask_heuristic_pinned :
    Gen.maskHeuristicLhs = lhsAsRead ∧ Gen.maskHeuristicRhs = rhsAsRead ∧ Gen.maskSlicesDef = slicesAsRead := by decide

open MaskCost in
/-- **compute_mask_iterations_bound.** For ANY lengths `L` of the slices: with a guard that has the one property `HeuristicSound` — going on with
pairs on `S ≥ 3·max(p,1)` slices implies `S ≤ M + p`, which for the pinned guard is `log(S / max(p,1)) ≥ log 3 > 1` — all loop iterations of
`_compute_mask` (the two binary searches per slice position and pair, then the linear filter) on an array with `nnz` stored entries and an index
of `ndim` entries number at most `ndim · (3·nnz + 2)`.  The bound does not mention `L`: `x[1:]` on an axis of `2^62` positions with one stored
entry costs a handful of iterations. -/
theorem compute_mask_iterations_bound (take : Nat → Nat → Nat → Bool) (hs : HeuristicSound take) (nnz : Nat) (steps : List AxisStep)
    (hadm : Admissible nnz steps) :
    totalIterations take 1 nnz steps ≤ steps.length * (3 * nnz + 2) ∧
    pairIterations take 1 nnz steps ≤ steps.length * (3 * nnz + 2) := by
  have h := totalIterations_le take hs nnz steps 1 nnz (by omega) (Nat.le_refl _) hadm
  exact ⟨h, Nat.le_trans (pairIterations_le_total take steps 1 nnz) h⟩

open MaskCost in
/-- **compute_mask_needs_the_heuristic.** The hypothesis is not decoration: with a guard that never leaves the pair search (what a guard of the
form `S · log(max(M,1) / max(p,1)) > M + p` amounts to when at most one candidate entry per pair is left: the logarithm is ≤ 0) the iterations
equal the slice length, for every length. -/
theorem compute_mask_needs_the_heuristic (L : Nat) :
    pairIterations (fun _ _ _ => true) 1 1 [⟨L, 1, 1⟩] = L ∧ Admissible 1 [⟨L, 1, 1⟩] := by
  simp [pairIterations, Admissible]

open MaskCost in
/-- non-vacuity: the exact decision `S ≤ M + p` is a sound guard; a slice of a million positions over one pair with three entries leaves for the
filter (3 iterations), a slice of two positions is searched (2 iterations) -/
example : HeuristicSound (fun S p M => decide (S ≤ M + p)) ∧
    totalIterations (fun S p M => decide (S ≤ M + p)) 1 3 [⟨1000000, 1, 1⟩] = 3 ∧
    totalIterations (fun S p M => decide (S ≤ M + p)) 1 3 [⟨2, 2, 3⟩, ⟨1000000, 1, 1⟩] = 2 + 3 := by
  refine ⟨fun S p M h _ => by simpa using h, by decide, by decide⟩

/-- **no_internal_errors.** No modelled operation returns `Err.internal` (nor `overflow`, `runtime`, `notImplemented`, `hang`):
indexing rejects only with `IndexError`; broadcasting, element-wise application, reductions, GCXS construction, format
conversion, `reshape` (no `OverflowError` any more) and the COO constructor (any data rank, shape given or not) only with
`ValueError` — for EVERY input, well-formed or not. -/
theorem no_internal_errors :
    (∀ (x : COO Int) (idx : List IxE) (e : Err), x.getitem idx = .error e → e = Err.index) ∧
    (∀ (s1 s2 : List Nat) (r : Bool) (e : Err), bshape2 s1 s2 r = .error e → e = Err.value) ∧
    (∀ (shapes : List (List Nat)) (e : Err), bshapeN shapes = .error e → e = Err.value) ∧
    (∀ (x : COO Int) (s : List Nat) (e : Err), x.broadcastTo s = .error e → e = Err.value) ∧
    (∀ (f : List Int → Int) (ops : List (Operand Int)) (e : Err), elemwiseN f ops = .error e → e = Err.value) ∧
    (∀ (op : RedOp) (x : COO Int) (axes : Option (List Int)) (kd : Bool) (e : Err), COO.reduce op x axes kd = .error e → e = Err.value) ∧
    (∀ (x : COO Int) (c : Option (List Nat)) (e : Err), GCXS.fromCoo x c = .error e → e = Err.value) ∧
    (∀ (a : SArr Int) (f : Fmt) (e : Err), a.convert f = .error e → e = Err.value) ∧
    (∀ (old : List Nat) (shape : List Int) (e : Err), reshapeShape old shape = .error e → e = Err.value) ∧
    (∀ (rows cols dn n : Nat) (sh : Option (List Int)) (e : Err), cooCtor rows cols dn n sh = .error e → e = Err.value) :=
  ⟨COO.getitem_error, bshape2_error, bshapeN_error, COO.broadcastTo_error, elemwiseN_error, COO.reduce_error,
   GCXS.fromCoo_error, convert_error, reshapeShape_error, cooCtor_error⟩

/-- the transposition/flip/roll/squeeze/expand_dims/reshape cores, concatenate/stack/triu/tril/diagonal cores and `GCXS.tocoo`
are total functions into arrays (no `Except`): they have no error branch at all -/
example (x : COO Int) (axes : List Nat) : COO Int := x.transposeCore axes

end SparseV.C18
