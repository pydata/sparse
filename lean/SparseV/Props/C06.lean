/-
  Property C06 — every returned array is in canonical, self-consistent form.
  Property theorems only.  `SortedLin shape es` = strictly increasing row-major linear location
  (so: row-major order, no repeats); `WF` = every stored index inside the shape.
-/
import SparseV.Lemmas.Canonical
import SparseV.Lemmas.Rewrite
import SparseV.Lemmas.Elemwise2
import SparseV.Model.Join
import SparseV.Model.PromiseCover
import SparseV.Generated.PromiseSites
namespace SparseV.C06
open SparseV SparseV.COO
variable {α : Type}

/-- **build_canonical.** The COO constructor with its default flags (coordinates in ANY order, WITH
repeats) always produces the canonical form: stored indices inside the shape and strictly
increasing in row-major order — for every shape, every coordinate list, with or without pruning. -/
theorem build_canonical [Add α] [DecidableEq α] (shape : List Nat) (es : List (Idx × α)) (fill : α)
    (prune : Bool) (hwf : ∀ e ∈ es, InB e.1 shape) :
    SortedLin shape (COO.build shape es fill false true prune).entries ∧
    (COO.build shape es fill false true prune).WF :=
  (build_wf_sorted shape es fill prune hwf).symm

/-- **promise_justified_transpose.** `transpose` hands the permuted coordinates to the constructor
with `has_duplicates=False`: justified (a permutation of the axes keeps indices distinct), and the
constructor's sort then yields the canonical order. Stated for the generic rewrite: any coordinate
map that is injective on the stored indices and lands inside the new shape. -/
theorem sorted_rewrite_canonical (shape' : List Nat) (es : List (Idx × α)) (g : Idx → Option Idx) (h : Idx → Idx)
    (hinv : ∀ e ∈ es, ∀ j', g e.1 = some j' → h j' = e.1) (hnd : (keysOf es).Nodup)
    (hin : ∀ e ∈ es, ∀ j', g e.1 = some j' → InB j' shape') :
    SortedLin shape' (sortEntries shape' (rewrite g es)) :=
  sortEntries_rewrite_sortedLin shape' es g h hinv hnd hin

/-- **promise_justified_reshape.** `reshape` promises `sorted=True, has_duplicates=False`: justified,
because the linear location of every stored entry is unchanged. -/
theorem reshape_canonical (x : COO α) (s : List Nat) (hwf : x.WF) (hsize : prod x.shape = prod s)
    (hc : SortedLin x.shape x.entries) : SortedLin s (x.reshapeCore s).entries :=
  reshapeCore_sorted x s hwf hsize hc

/-- **promise_justified_triu / tril.** filtering keeps the canonical order. -/
theorem filter_canonical (shape : List Nat) (p : Idx × α → Bool) (es : List (Idx × α)) (hc : SortedLin shape es) :
    SortedLin shape (es.filter p) :=
  filter_sortedLin shape p es hc

/-- **nofill_elemwise.** An element-wise result stores no entry equal to its fill value (whatever
the operands stored). -/
theorem nofill_elemwise {β γ : Type} [DecidableEq γ] (f : α → β → γ) (A : List (Idx × α)) (fa : α)
    (B : List (Idx × β)) (fb : β) : ∀ e ∈ COO.elemwise2 f A fa B fb, e.2 ≠ f fa fb := by
  intro e he
  unfold COO.elemwise2 at he
  rw [List.mem_filter] at he
  simpa using he.2

/-- **nofill_prune.** `prune=True` results store no fill-valued entry. -/
theorem nofill_prune [DecidableEq α] (fill : α) (es : List (Idx × α)) :
    ∀ e ∈ pruneEntries fill es, e.2 ≠ fill := by
  intro e he
  unfold pruneEntries at he
  rw [List.mem_filter] at he
  simpa using he.2

/-- canonical order implies distinct stored indices (so `nnz` counts distinct positions) -/
theorem sortedLin_nodup (shape : List Nat) (es : List (Idx × α)) (hc : SortedLin shape es) :
    (keysOf es).Nodup :=
  sortedLin_keys_nodup shape es hc

/-- **promise_sites_covered.** Every constructor call site in the CURRENT source that promises
`sorted=…`, `has_duplicates=False` or passes a ready-made GCXS triple (table regenerated from the
source on every run) is one whose promise has a recorded justification — a theorem above, or a
representation-level correspondence leg. A new or altered promise site makes this fail. -/
theorem promise_sites_covered :
    ∀ s ∈ Gen.promiseSites, (s.1, s.2.1, s.2.2.1, s.2.2.2.1, s.2.2.2.2.1) ∈ promiseCover.map (·.1) := by
  decide +kernel

/-- non-vacuity: the hypothesis of `build_canonical` holds for unsorted coordinates with a repeat -/
example : ∀ e ∈ [([1, 1], (5 : Int)), ([0, 1], 2), ([1, 1], -5)], InB e.1 [2, 2] := by decide

end SparseV.C06
