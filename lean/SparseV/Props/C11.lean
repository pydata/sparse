/-
  Property C11 — operations never modify their operands; caching is unobservable.
  The invariant `cache_inv` (every cached pair (k, v) has v = compute k, the `_csr/_csc` memos
  likewise) and the step lemmas are in Lemmas/Cache.lean.

  Part 1 (cache).  The state machine of `Model/Cache.lean` follows COO.transpose / reshape / tocsr /
  tocsc with caching enabled.  `cached_run_eq_uncached` says: whatever the sequence of calls —
  any length, repeated keys, more distinct keys than the deques hold — every call returns exactly
  what the same call returns with caching disabled (including raising when that raises).
  Part 2 (storage).  `frame`: a protocol all of whose in-place writes target buffers it allocated
  itself leaves every pre-existing buffer (the operands' in particular) unchanged, whatever is
  written; `all_protocols_write_fresh` checks that premise for the whole transcribed table.
-/

import SparseV.Lemmas.Cache

namespace SparseV.C11

open SparseV SparseV.Cache

variable {Val : Type}

/-- **cache_inv is preserved by every call.** -/
theorem cache_inv_step (o : Ops Val) (s : State Val) (c : Call) (h : cache_inv o s) :
    cache_inv o (step o s c).1 := (step_spec o s c h).1

/-- a freshly enabled cache (`enable_caching`) satisfies the invariant -/
theorem cache_inv_init (o : Ops Val) : cache_inv o ({} : State Val) :=
  ⟨List.forall_mem_nil _, List.forall_mem_nil _, nofun, nofun⟩

/-- **cached_run_eq_uncached.** For EVERY sequence of transpose/reshape/tocsr/tocsc calls on a
cache-enabled array — any length, keys repeated in any order, more distinct keys than the deques
hold, computations that raise — the list of outcomes equals the list of outcomes of the same calls
with caching disabled. -/
theorem cached_run_eq_uncached (o : Ops Val) (calls : List Call) :
    outputs o calls = calls.map (uncached o) :=
  (run_spec o calls {} (cache_inv_init o)).2

/-- the same from any reachable state (e.g. the array handed to a second piece of code mid-history) -/
theorem cached_run_eq_uncached_from (o : Ops Val) (pre calls : List Call) :
    (run o (run o {} pre).1 calls).2 = calls.map (uncached o) :=
  (run_spec o calls _ (run_spec o pre {} (cache_inv_init o)).1).2

/-- **capacity invariant.** After every call sequence both deques hold at most 3 entries. -/
theorem capacity_inv (o : Ops Val) (calls : List Call) :
    ∀ s : State Val, s.tr.length ≤ capacity → s.rs.length ≤ capacity →
      (run o s calls).1.tr.length ≤ capacity ∧ (run o s calls).1.rs.length ≤ capacity := by
  induction calls with
  | nil => intro s h1 h2; exact ⟨h1, h2⟩
  | cons c cs ih =>
    intro s h1 h2
    have h := step_length o s c h1 h2
    exact ih _ h.1 h.2

/-- non-vacuity: five distinct transposes (beyond capacity), one repeated after eviction, tocsc
before tocsr, a reshape hit; values are the keys themselves.  The cached run returns the uncached
values, the first key has been evicted and the deque holds exactly the last three. -/
def exOps : Ops Key :=
  { shape := [2, 3, 4], self := .reshape [2, 3, 4], compute := fun k => .ok k,
    csrToCsc := fun _ => .csc, cscToCsr := fun _ => .csr }

def exCalls : List Call :=
  [.transpose [1, 0, 2], .transpose [2, 1, 0], .transpose [0, 2, 1], .transpose [1, 2, 0],
   .transpose [1, 0, 2], .csc, .csr, .reshape [6, 4] true, .reshape [6, 4] false, .transpose [0, 1, 2],
   .reshape [2, 3, 4] true, .reshape [2, 3, 4] false]

example : outputs exOps exCalls = exCalls.map (uncached exOps)
    ∧ (run exOps {} exCalls).1.tr.map (·.1) = [.transpose [0, 2, 1], .transpose [1, 2, 0], .transpose [1, 0, 2]]
    ∧ ((observe exOps {} exCalls).map (·.hit)) = [false, false, false, false, false, false, true, false, true, false, false, false]
    ∧ ((observe exOps {} exCalls).map (·.self)) = [false, false, false, false, false, false, false, false, false, true, true, false] := by
  decide

open SparseV.Buffer

/-- **frame.** If every in-place write of a protocol targets a buffer allocated earlier in the same
protocol (`writesFresh`), then executing it — from any heap, with the operands bound to any
pre-existing buffers, whatever the writes store — leaves every pre-existing buffer unchanged. -/
theorem frame (w : Nat → Content → Content) (p : List Step) :
    ∀ (k : Nat) (h : Heap), writesFresh (h.env.map Loc.isNew) p = true → (exec w k h p).old = h.old := by
  induction p with
  | nil => intro k h _; rfl
  | cons s ss ih =>
    intro k h hw
    obtain ⟨h1, h2⟩ := Bool.and_eq_true_iff.mp hw
    exact (ih (k + 1) (exec1 w k h s) (exec1_tags w k h s ▸ h2)).trans (exec1_old w k h s h1)

/-- **names_fresh_iff_tagged.** The static classification is sound for storage, not only for
writes: after executing a `writesFresh` protocol, a name refers to storage allocated by the protocol
exactly when its static tag says so — so a result field the table calls fresh cannot be a view of
an operand, and one it calls a view is one. -/
theorem names_fresh_iff_tagged (w : Nat → Content → Content) (p : List Step) :
    ∀ (k : Nat) (h : Heap), writesFresh (h.env.map Loc.isNew) p = true →
      (exec w k h p).env.map Loc.isNew = p.foldl tag1 (h.env.map Loc.isNew) :=
  fun k h _ => exec_tags w p k h

/-- **alias_map_consistent.** For every protocol of the table the alias map used by the tie
(`origins`: which operand buffer a name may share storage with) calls a name fresh exactly when
the tag analysis of `frame` does (an instance of `origins_tags`, which holds for any protocol). -/
theorem alias_map_consistent : ∀ p ∈ protocols,
    (origins p.operands.length p.steps).map Option.isNone = p.steps.foldl tag1 p.tags0 :=
  fun p _ => origins_tags p.operands.length p.steps

/-- **all_protocols_write_fresh.** Every protocol of the transcribed table is well scoped and
writes only into buffers it allocated itself (the whole table, by evaluation). -/
theorem all_protocols_write_fresh : ∀ p ∈ protocols, p.writesFresh = true ∧ p.wellScoped = true := by
  decide +kernel

/-- **operands_unchanged.** For every transcribed operation, whatever buffers its operands occupy
and whatever else is on the heap, after the operation every pre-existing buffer has the content it
had before. -/
theorem operands_unchanged (p : Protocol) (hp : p ∈ protocols) (w : Nat → Content → Content)
    (old : List Content) (bufs : List Nat) (hb : bufs.length = p.operands.length) :
    (exec w 0 { old := old, new := [], env := bufs.map Loc.old } p.steps).old = old := by
  apply frame
  have hm : (bufs.map Loc.old).map Loc.isNew = p.tags0 :=
    (List.map_map ..).trans ((List.map_const' ..).trans (by rw [hb]; rfl))
  rw [hm]
  exact (all_protocols_write_fresh p hp).1

/-- the premise of `frame` is not vacuous and not trivially true: `roll` without its `np.copy`
(writing through the operand's `coords`) is rejected by the same static test, and on a concrete
heap it does change the operand. -/
example : writesFresh [false, false] [.writeInPlace 0, .writeInPlace 0] = false
    ∧ (exec (fun _ c => c.map (· + 1)) 0 { old := [[0, 1], [5, 7]], new := [], env := [.old 0, .old 1] }
        [.writeInPlace 0]).old = [[1, 2], [5, 7]]
    ∧ (exec (fun _ c => c.map (· + 1)) 0 { old := [[0, 1], [5, 7]], new := [], env := [.old 0, .old 1] }
        [.copyOf 0, .writeInPlace 2]).old = [[0, 1], [5, 7]]
    ∧ (exec (fun _ c => c.map (· + 1)) 0 { old := [[0, 1], [5, 7]], new := [], env := [.old 0, .old 1] }
        [.copyOf 0, .writeInPlace 2]).new = [[1, 2]] := by decide

end SparseV.C11
