/-
  Property C13 — results do not depend on thread interleaving.  The invariants (MInv, CInv, PInv; DInv, WInv)
  and their preservation lemmas are in Lemmas/Interleave.lean and Lemmas/SharedReads.lean.

  The theorems quantify over ALL schedules (lists of thread ids of any length), any number of
  threads, any list of calls per thread and any initial content of the shared state that satisfies
  the sequential invariant of C11.  What they do not cover (the claim is partial): the atomicity
  granularity is an assumption about CPython's GIL; data races inside `nogil` kernels are not
  modelled (C11: kernels write only into buffers they allocated); free-threaded builds are out of
  scope.
-/

import SparseV.Lemmas.Interleave
import SparseV.Lemmas.SharedReads

namespace SparseV.C13

open SparseV SparseV.Interleave SparseV.Cache

section Memo

variable {K V : Type} [DecidableEq K]

/-- **memo_race_benign.** `_memoize_dtype` without a lock: for ALL schedules, any number of threads
and calls and any (correct) initial dict, every finished call returned `compute args` — never a
wrong value, never a KeyError.  (Two threads may both compute the same key; the later store
shadows the earlier; the values are equal.) -/
theorem memo_race_benign (compute : K → V) (m : List (K × V)) (hm : MemoOK compute m)
    (progs : List (List K)) (sched : List Nat) :
    ∀ th ∈ (runSched (mstep compute) sched (minit m progs)).threads,
      ∀ r ∈ th.rets, r.2 = .ok (compute r.1) :=
  fun th hth => ((minv_run compute m hm progs sched).2 th hth).1

/-- and the dict itself stays correct, so every later (sequential or concurrent) use is too -/
theorem memo_stays_correct (compute : K → V) (m : List (K × V)) (hm : MemoOK compute m)
    (progs : List (List K)) (sched : List Nat) :
    MemoOK compute (runSched (mstep compute) sched (minit m progs)).memo :=
  (minv_run compute m hm progs sched).1

end Memo

/-- non-vacuity: two threads race on the same key — both miss, both compute, both store — and a
third call hits; every call returned `compute k`, and both stores happened. -/
example :
    let s := runSched (mstep (fun k : Nat => k * 10)) [0, 1, 0, 1, 0, 1, 0, 1, 0, 0, 0] (minit [] [[7, 7], [7]])
    s.threads.map (·.rets) = [[(7, .ok 70), (7, .ok 70)], [(7, .ok 70)]] ∧ s.memo = [(7, 70), (7, 70)] := by
  decide

variable {V : Type}

/-- **cache_values_correct_all_schedules.** Shared cache deque, code as it is (`live`) or repaired
(`snapshot`): for EVERY schedule, any number of threads and calls, any correct initial deque —
whenever a call returns a value, it is `compute key`.  No interleaving of lookups, insertions and
evictions makes a call return another key's result or a stale one. -/
theorem cache_values_correct_all_schedules (mode : Mode) (compute : Key → V) (dq : Cache V)
    (hd : DqOK compute dq) (progs : List (List Key)) (sched : List Nat) :
    ∀ th ∈ (runSched (cstep mode compute) sched (cinit dq progs)).threads,
      ∀ r ∈ th.rets, ∀ v, r.2 = .ok v → v = compute r.1 :=
  fun th hth => ((cinv_run mode compute dq hd progs sched).2 th hth).1

/-- the deque stays correct and bounded under every schedule (so the array remains usable) -/
theorem cache_stays_correct (mode : Mode) (compute : Key → V) (dq : Cache V)
    (hd : DqOK compute dq) (progs : List (List Key)) (sched : List Nat) :
    DqOK compute (runSched (cstep mode compute) sched (cinit dq progs)).dq :=
  (cinv_run mode compute dq hd progs sched).1

/-- **The full statement**: under no schedule does any call end with an error (sequentially none
does: `compute` is total). -/
def Statement_no_new_errors (mode : Mode) (compute : Key → V) : Prop :=
  ∀ (dq : Cache V) (progs : List (List Key)) (sched : List Nat),
    errorsOf (runSched (cstep mode compute) sched (cinit dq progs)) = []

/- the witness (`cexDq`, `cexProgs`, `cexSched`, defined in Model/Interleave.lean): the cache already holds one entry; thread 0 looks up another key and has fetched
and compared that entry (idle→start, start→iter, next, compare) when thread 1 runs a whole call for
a third key (miss, compute, append); thread 0's next `next()` sees the changed deque version. -/

/-- **cache_iter_race_counterexample.** A concrete 2-thread schedule on the current code in which a
call that succeeds when run alone ends with RuntimeError (deque mutated during iteration). -/
theorem cache_iter_race_counterexample : ¬ Statement_no_new_errors .live (fun k : Key => k) := by
  intro h
  have := h cexDq cexProgs cexSched
  revert this
  decide

/-- the witness lies in the excluded region, and the same schedule is harmless for the repair -/
example : Excluded_appendDuringIteration .live (fun k : Key => k) (cinit cexDq cexProgs) cexSched = true
    ∧ errorsOf (runSched (cstep .live (fun k : Key => k)) cexSched (cinit cexDq cexProgs))
        = [(.transpose [2, 1, 0], .runtime)]
    ∧ errorsOf (runSched (cstep .snapshot (fun k : Key => k)) (cexSched ++ [0, 0, 0]) (cinit cexDq cexProgs)) = []
    ∧ allDone (runSched (cstep .snapshot (fun k : Key => k)) (cexSched ++ [0, 0, 0]) (cinit cexDq cexProgs)) = true := by
  decide

/-- Either way of keeping `append` away from a running iterator will do: iterate over a private
tuple (`snapshot`), or, on the code as it is, a schedule in which no `append` executes while some
thread is inside its lookup loop.  The two theorems below are the two cases. -/
theorem no_errors_unless_raced (mode : Mode) (compute : Key → V) (dq : Cache V) (progs : List (List Key))
    (sched : List Nat)
    (hex : mode = .live → Excluded_appendDuringIteration mode compute (cinit dq progs) sched = false) :
    errorsOf (runSched (cstep mode compute) sched (cinit dq progs)) = [] :=
  errors_nil (fun _ _ => rfl) fun th hth => (run_pinv mode compute sched _ (cinit_pinv mode dq progs) hex th hth).1

/-- **no_new_errors_partial.** On the current code: every schedule in which no `append` executes
while some thread is inside its lookup loop — the complement of the decidable predicate
`Excluded_appendDuringIteration` — ends without any error.  So the deque-iteration race is the
ONLY way a concurrent cached call can fail. -/
theorem no_new_errors_partial (compute : Key → V) (dq : Cache V) (progs : List (List Key)) (sched : List Nat)
    (hex : Excluded_appendDuringIteration .live compute (cinit dq progs) sched = false) :
    errorsOf (runSched (cstep .live compute) sched (cinit dq progs)) = [] :=
  no_errors_unless_raced .live compute dq progs sched fun _ => hex

/-- **snapshot_no_errors.** With the lookup iterating over `tuple(deque)` (proposed_fixes/
C13-cache-iter.diff) the full statement holds: no schedule, for any number of threads and calls,
makes any call fail. -/
theorem snapshot_no_errors (compute : Key → V) : Statement_no_new_errors .snapshot compute :=
  fun dq progs sched => no_errors_unless_raced .snapshot compute dq progs sched nofun

/-- **pure_calls_independent.** An action that touches no shared state (starting the next call,
comparing a fetched key, building the result) commutes with every action of every other thread:
`step u ∘ step t = step t ∘ step u`.  So the position of such actions in a schedule is irrelevant —
which is why the traced scheduler may merge them into the neighbouring quantum, and why calls that
never reach the shared cache (every call on an array without caching) are independent of all
interleavings. -/
theorem pure_calls_independent (mode : Mode) (compute : Key → V) (s : CState V) (t u : Nat) (htu : t ≠ u)
    (th : CThread V) (ht : s.threads[t]? = some th) (hl : isLocalPc th = true) :
    cstep mode compute u (cstep mode compute t s) = cstep mode compute t (cstep mode compute u s) := by
  obtain ⟨th', hloc⟩ := cnext_local mode compute hl
  have ht' := (cstep_other_slot mode compute s t u htu).trans ht
  have hu' := cstep_other_slot mode compute s u t (Ne.symm htu)
  cases hu : s.threads[u]? with
  | none => rw [cstep_none mode compute hu, cstep_none mode compute (hu'.trans hu)]
  | some x =>
    rw [cstep_some mode compute (hu'.trans hu), cstep_some mode compute ht', cstep_some mode compute ht,
      cstep_some mode compute hu]
    simp only [hloc, List.set_comm _ _ htu]

/-- non-vacuity: in the witness run, after three steps thread 0 is about to compare a fetched key
(a private action) while thread 1 has all its shared actions still to do -/
example : ((runSched (cstep .live (fun k : Key => k)) [0, 0, 0] (cinit cexDq cexProgs)).threads[0]?).map isLocalPc = some true := by
  decide

/-- **coarse_run_is_fine_run.** A schedule at the granularity of the traced scheduler (one thread
id per source-line quantum) is an ordinary schedule of the transition system: the theorems above,
which quantify over all fine schedules, apply to every run the harness replays or explores. -/
theorem coarse_run_is_fine_run (mode : Mode) (compute : Key → V) (coarse : List Nat) :
    ∀ s : CState V, (coarseRun mode compute coarse s).1
      = runSched (cstep mode compute) (coarseRun mode compute coarse s).2 s := by
  induction coarse with
  | nil => intro s; rfl
  | cons t ts ih =>
    intro s
    simp only [coarseRun]
    rw [runSched_append, ← quantum_is_fine, ← ih]

/-- the witness at the harness's granularity: nine quanta, standing for the twelve fine steps -/
example : (coarseRun .live (fun k : Key => k) [0, 0, 0, 1, 1, 1, 1, 1, 0] (cinit cexDq cexProgs)).2 = cexSched := by
  decide

open SparseV.Shared

/-- **reads_only_no_new_errors.** Calls whose statements only READ the shared dictionary (statement
loops and comprehensions over the live dictionary, one-call reads such as `list(d.items())`, `len`,
`k in d`): for ALL schedules, any number of threads and calls per thread and any dictionary (dead
slots included) — no call raises (`dictionary changed size during iteration` is unreachable), the
dictionary is left exactly as it was, and every call has seen what it sees when it runs alone. -/
theorem reads_only_no_new_errors (d0 : Dict) (progs : List (List Op))
    (hp : ∀ p ∈ progs, ∀ op ∈ p, Op.isRead op = true) (sched : List Nat) :
    derrorsOf (runSched dstep sched (dinit d0 progs)) = []
    ∧ (runSched dstep sched (dinit d0 progs)).dict = d0
    ∧ ∀ th ∈ (runSched dstep sched (dinit d0 progs)).threads, ∀ r ∈ th.rets, r.2 = .ok (seqSeen d0 r.1) := by
  have h := run_inv dstep (DInv d0) (dstep_inv d0) sched _ (dinit_inv d0 progs hp)
  exact ⟨errors_nil (fun _ _ => rfl) fun th hth r hr => ⟨_, (h.2 th hth).2.1 r hr⟩, h.1, fun th hth => (h.2 th hth).2.1⟩

/-- non-vacuity: three threads — `todense` (statement loop), a comprehension, `asformat` (one-call read) —
interleaved step by step on a dictionary with a dead slot; all finish, each saw both live entries. -/
example :
    let s := runSched dstep [0, 1, 2, 0, 1, 2, 0, 1, 2, 0, 1, 2, 0, 1, 0, 1, 0, 0, 0, 0]
      (dinit [some (0, 5), none, some (2, 0)] [[[.iterItems]], [[.scanItems]], [[.snapshot]]])
    dallDone s = true ∧ s.threads.map (fun th => th.rets.map (·.2)) = [[.ok [(0, 5), (2, 0)]], [.ok [(0, 5), (2, 0)]], [.ok [(0, 5), (2, 0)]]] := by
  decide

/-- **dok_read_methods_read_only.** Over the table GENERATED from the current source of class DOK
(every mention of `self.data`, classified): every method that is not one of the documented mutators
(`__init__`, `__setitem__`, `_fancy_setitem`, `_setitem`) is understood and consists of reads only.
A method that starts to write `self.data`, to alias it or to use it in a way the extractor does not
understand makes this theorem fail. -/
theorem dok_read_methods_read_only :
    (match dokReadProtos with
     | some ps => ps.all Op.isRead
     | none => false) = true := by
  decide +kernel

/-- **dok_reads_no_new_errors.** Hence, for the DOK class as it is in the source: no interleaving of
calls of its read-only methods (todense, asformat — and through it every conversion, `__getitem__`,
reshape, element-wise and reduction call —, nnz, _fancy_getitem) on a shared array raises, changes
the dictionary, or shows a call anything but the whole dictionary. -/
theorem dok_reads_no_new_errors (ps : List Op) (hps : dokReadProtos = some ps) (d0 : Dict) (progs : List (List Op))
    (hp : ∀ p ∈ progs, ∀ op ∈ p, op ∈ ps) (sched : List Nat) :
    derrorsOf (runSched dstep sched (dinit d0 progs)) = []
    ∧ (runSched dstep sched (dinit d0 progs)).dict = d0
    ∧ ∀ th ∈ (runSched dstep sched (dinit d0 progs)).threads, ∀ r ∈ th.rets, r.2 = .ok (seqSeen d0 r.1) := by
  have h := dok_read_methods_read_only
  rw [hps] at h
  exact reads_only_no_new_errors d0 progs (fun p hpm op hop => List.all_eq_true.mp h op (hp p hpm op hop)) sched

/-- non-vacuity: the table yields protocols, `todense` is a live loop and `asformat` a one-call read -/
example : dokReadProtos.isSome = true ∧ methodProto "todense" = some [.iterItems] ∧ methodProto "asformat" = some [.snapshot] := by
  decide

/-- **The full statement** for calls drawn from a given set of methods: under no schedule does a call
fail, and the dictionary is left as it was. -/
def Statement_dict_reads_safe (allowed : List Op) : Prop :=
  ∀ (d0 : Dict) (progs : List (List Op)), (∀ p ∈ progs, ∀ op ∈ p, op ∈ allowed) → ∀ sched : List Nat,
    derrorsOf (runSched dstep sched (dinit d0 progs)) = [] ∧ (runSched dstep sched (dinit d0 progs)).dict = d0

/-- **pruning_read_counterexample.** If a "read" prunes — `asformat` first deletes the entries equal
to the fill value, `for c in [c for c, d in self.data.items() if d == fill]: del self.data[c]` — the
statement is false: a concrete 2-thread schedule in which `todense`, which succeeds alone, ends with
RuntimeError (dictionary changed size during iteration). -/
theorem pruning_read_counterexample : ¬ Statement_dict_reads_safe [[.iterItems], [.pruneFill, .snapshot]] := by
  intro h
  have := (h pruneDict pruneProgs (by decide) pruneSched).1
  revert this
  decide

/-- and such a read changes its operand even when it runs alone: no second thread is needed to see it -/
theorem pruning_read_changes_operand :
    (runSched dstep (List.replicate 11 0) (dinit pruneDict [[[.pruneFill, .snapshot]]])).dict ≠ pruneDict
    ∧ derrorsOf (runSched dstep (List.replicate 11 0) (dinit pruneDict [[[.pruneFill, .snapshot]]])) = []
    ∧ dallDone (runSched dstep (List.replicate 11 0) (dinit pruneDict [[[.pruneFill, .snapshot]]])) = true := by
  decide

/-- the extractor's rows for the pruning variant are mapped to that protocol, and rejected as a read -/
example :
    let rows := [("asformat", "iter-comp", ""), ("asformat", "write:del", ""), ("asformat", "snapshot", ""), ("todense", "iter-loop", "")]
    methodProtoIn rows "asformat" = some [.pruneFill, .snapshot]
    ∧ ((readMethodsIn rows).mapM (methodProtoIn rows)).map (fun ps => ps.all Op.isRead) = some false := by
  decide

/-- the harness's line-granularity schedules of the dictionary rig are ordinary schedules -/
theorem dcoarse_run_is_fine_run (fuel : Nat) (coarse : List Nat) :
    ∀ s : DState, (dcoarseRun fuel coarse s).1 = runSched dstep (dcoarseRun fuel coarse s).2 s := by
  induction coarse with
  | nil => intro s; rfl
  | cons t ts ih =>
    intro s
    simp only [dcoarseRun]
    rw [runSched_append, ← dquantum_is_fine, ← ih]

/-- is the call one of the library's: a `catch_warnings` block from `blocks`, or a call that emits a
warning of the catalogue -/
def WOp.fromLib (blocks : List (List Filter)) (cat : List Warn) : WOp → Bool
  | .block fs => blocks.contains fs
  | .warn w => cat.contains w

/-- **The full statement** for a library with the given blocks and warnings: started from a filter
list without harmful entries (Python's default has none), under no schedule does a call that merely
warns when it runs alone end with an error. -/
def Statement_filters_no_new_errors (blocks : List (List Filter)) (cat : List Warn) : Prop :=
  ∀ (fs0 : List Filter), benign cat fs0 = true → ∀ (progs : List (List WOp)),
    (∀ p ∈ progs, ∀ op ∈ p, WOp.fromLib blocks cat op = true) → ∀ sched : List Nat,
      werrorsOf (runSched wstep sched (winit fs0 progs)) = []

/-- **filters_no_new_errors.** If no block installs a harmful filter — one whose action is "error" and
which matches a catalogued warning or has no message — then for ALL schedules, any number of threads
and calls, nested or not: no warning is ever turned into an error.  (The installed list need NOT be
restored: see the example below — a warning can be lost, no result changes.) -/
theorem filters_no_new_errors (blocks : List (List Filter)) (cat : List Warn)
    (hb : blocks.all (benign cat) = true) : Statement_filters_no_new_errors blocks cat := by
  intro fs0 hfs progs hp sched
  have hops : ∀ p ∈ progs, ∀ op ∈ p, WOpOK cat op := by
    intro p hpm op hop
    have := hp p hpm op hop
    cases op with
    | block fs => exact benign_iff.mp (List.all_eq_true.mp hb fs (List.contains_iff_mem.mp this))
    | warn w => exact List.contains_iff_mem.mp this
  have h := run_inv wstep (WInv cat) (wstep_inv cat) sched _ (winit_inv cat fs0 (benign_iff.mp hfs) progs hops)
  exact errors_nil (fun _ _ => rfl) fun th hth r hr => ⟨(), (h.2 th hth).2.1 r hr⟩

/-- **library_blocks_benign.** Over the tables GENERATED from the current source: no
`with warnings.catch_warnings()` block of the package installs a harmful filter (the catalogue: NumPy's
floating-point warnings and every `warnings.warn` of the package), and no function edits process-global
state outside such a block. -/
theorem library_blocks_benign : libraryBlocks.all (benign libraryCatalogue) = true ∧ Gen.globalWrites = [] := by
  decide +kernel

/-- **library_filters_no_new_errors.** Hence, for the package as it is in the source: whatever the
interleaving of `can_store` (reshape, concatenate, conversions to and from GCXS, GCXS indexing),
`density`, `html_table` and calls that warn (1/s, log(s), g/g, matmul with NaN, nan-reductions), no
warning becomes an error. -/
theorem library_filters_no_new_errors : Statement_filters_no_new_errors libraryBlocks libraryCatalogue :=
  filters_no_new_errors _ _ library_blocks_benign.1

/-- non-vacuity, and what is NOT claimed: `can_store`'s two filters ("ignore" everything; "error" for a
DeprecationWarning starting with "out-of-bound", which nothing emits) are in the table; two threads
leaving their blocks in non-nested order leave both filters installed for good — the list is not
restored — and a later division by zero is silently ignored instead of shown: a lost warning, not an error. -/
example :
    let cs : List Filter := [⟨.ignore, [], "Warning"⟩, ⟨.error, "out-of-bound".toList, "DeprecationWarning"⟩]
    let s := runSched wstep [0, 0, 0, 0, 1, 1, 0, 0, 1, 1, 1, 1, 2, 2] (winit [] [[.block cs], [.block cs], [.warn divWarn]])
    libraryBlocks.contains cs = true ∧ libraryCatalogue.contains ⟨"RuntimeWarning", "divide by zero encountered".toList⟩ = true
    ∧ wallDone s = true ∧ s.filters ≠ [] ∧ werrorsOf s = [] := by
  decide +kernel

/-- **error_filter_transient_counterexample.** A block that installs a catch-all "error" filter
(`warnings.simplefilter("error")`): while one thread is inside, a call of another thread that merely
warns when run alone raises. -/
theorem error_filter_transient_counterexample : ¬ Statement_filters_no_new_errors [[errAll]] [divWarn] := by
  intro h
  have := h [] rfl transientProgs (by simp only [transientProgs, List.mem_cons, List.not_mem_nil, or_false, WOp.fromLib, List.contains_eq_mem,
    forall_eq_or_imp, forall_eq, decide_true, and_self]) transientSched
  revert this
  decide

/-- **error_filter_lasting_counterexample.** Two such blocks left in non-nested order re-install a list
that still holds the "error" filter: after BOTH threads have left their blocks it is installed for
good, and a warning emitted by a third call long afterwards raises. -/
theorem error_filter_lasting_counterexample :
    wallDone (runSched wstep lastingSched (winit [] lastingProgs)) = true
    ∧ (runSched wstep lastingSched (winit [] lastingProgs)).filters = [errAll]
    ∧ werrorsOf (runSched wstep lastingSched (winit [] lastingProgs)) = [(.warn divWarn, .runtime)] :=
  ⟨rfl, rfl, rfl⟩

end SparseV.C13
