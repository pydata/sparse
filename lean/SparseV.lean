import SparseV.Audit.C01
import SparseV.Audit.C02
import SparseV.Audit.C03
import SparseV.Audit.C04
import SparseV.Audit.C05
import SparseV.Audit.C06
import SparseV.Audit.C07
import SparseV.Audit.C08
import SparseV.Audit.C09
import SparseV.Audit.C10
import SparseV.Audit.C11
import SparseV.Audit.C12
import SparseV.Audit.C13
import SparseV.Audit.C14
import SparseV.Audit.C15
import SparseV.Audit.C16
import SparseV.Audit.C17
import SparseV.Audit.C18
import SparseV.Audit.C19
import SparseV.Audit.C20
import SparseV.Generated.Common
import SparseV.Generated.Compressed
import SparseV.Generated.CooCore
import SparseV.Generated.Dispatch
import SparseV.Generated.Dok
import SparseV.Generated.FillPolicy
import SparseV.Generated.MaskHeuristic
import SparseV.Generated.MlirHold
import SparseV.Generated.Npz
import SparseV.Generated.PromiseSites
import SparseV.Generated.SharedState
import SparseV.Generated.Slicing
import SparseV.Generated.SparseArray
import SparseV.Generated.Umath
import SparseV.Generated.Utils
import SparseV.Lemmas.Assoc
import SparseV.Lemmas.Big
import SparseV.Lemmas.Broadcast
import SparseV.Lemmas.BroadcastSorted
import SparseV.Lemmas.Build
import SparseV.Lemmas.Cache
import SparseV.Lemmas.Canonical
import SparseV.Lemmas.Compress
import SparseV.Lemmas.Cost
import SparseV.Lemmas.Create
import SparseV.Lemmas.Dok
import SparseV.Lemmas.DokKey
import SparseV.Lemmas.DokRefine
import SparseV.Lemmas.DokSet
import SparseV.Lemmas.Dot
import SparseV.Lemmas.Elemwise2
import SparseV.Lemmas.ElemwiseN
import SparseV.Lemmas.GcxsFlat
import SparseV.Lemmas.GcxsGetitem
import SparseV.Lemmas.GcxsJoin
import SparseV.Lemmas.GcxsKey
import SparseV.Lemmas.GcxsReduce
import SparseV.Lemmas.GcxsRows
import SparseV.Lemmas.GcxsSelect
import SparseV.Lemmas.GcxsVec
import SparseV.Lemmas.Gen.Axis
import SparseV.Lemmas.Gen.Bcast
import SparseV.Lemmas.Gen.Create
import SparseV.Lemmas.Gen.Ctor
import SparseV.Lemmas.Gen.Dok
import SparseV.Lemmas.Gen.Slicing
import SparseV.Lemmas.Index
import SparseV.Lemmas.Interleave
import SparseV.Lemmas.Join
import SparseV.Lemmas.Levels
import SparseV.Lemmas.List
import SparseV.Lemmas.Loops
import SparseV.Lemmas.MaskCost
import SparseV.Lemmas.NoInternal
import SparseV.Lemmas.Npz
import SparseV.Lemmas.Ownership
import SparseV.Lemmas.ProgBase
import SparseV.Lemmas.ProgElem
import SparseV.Lemmas.ProgIndex
import SparseV.Lemmas.ProgJoin
import SparseV.Lemmas.ProgMisc
import SparseV.Lemmas.ProgReduce
import SparseV.Lemmas.ProgShape
import SparseV.Lemmas.Range
import SparseV.Lemmas.Reduce
import SparseV.Lemmas.Rewrite
import SparseV.Lemmas.Search
import SparseV.Lemmas.Shape
import SparseV.Lemmas.SharedReads
import SparseV.Lemmas.Validate
import SparseV.Lemmas.Width
import SparseV.Model.Basic
import SparseV.Model.Big
import SparseV.Model.Buffer
import SparseV.Model.Cache
import SparseV.Model.Convert
import SparseV.Model.Coo
import SparseV.Model.Cost
import SparseV.Model.Create
import SparseV.Model.Dispatch
import SparseV.Model.Dok
import SparseV.Model.Dot
import SparseV.Model.Elemwise
import SparseV.Model.Elemwise2
import SparseV.Model.Expr
import SparseV.Model.FillPolicy
import SparseV.Model.Gcxs
import SparseV.Model.GcxsIndex
import SparseV.Model.GcxsJoin
import SparseV.Model.GcxsReduce
import SparseV.Model.Getitem
import SparseV.Model.Interleave
import SparseV.Model.Join
import SparseV.Model.Levels
import SparseV.Model.Loops
import SparseV.Model.MaskCost
import SparseV.Model.Npz
import SparseV.Model.Ownership
import SparseV.Model.PromiseCover
import SparseV.Model.Reduce
import SparseV.Model.Search
import SparseV.Model.SharedReads
import SparseV.Model.Slice
import SparseV.Model.Validate
import SparseV.Model.Width
import SparseV.Props.C01
import SparseV.Props.C02
import SparseV.Props.C02Gcxs
import SparseV.Props.C03
import SparseV.Props.C03Gcxs
import SparseV.Props.C04
import SparseV.Props.C05
import SparseV.Props.C06
import SparseV.Props.C07
import SparseV.Props.C08
import SparseV.Props.C09
import SparseV.Props.C09Gcxs
import SparseV.Props.C10
import SparseV.Props.C11
import SparseV.Props.C12
import SparseV.Props.C13
import SparseV.Props.C14
import SparseV.Props.C15
import SparseV.Props.C16
import SparseV.Props.C17
import SparseV.Props.C18
import SparseV.Props.C19
import SparseV.Props.C20
import SparseV.Props.Program
import SparseV.Spec.Assign
import SparseV.Spec.Create
import SparseV.Spec.GcxsGetitem
import SparseV.Spec.Getitem
import SparseV.Spec.Matmul
import SparseV.Spec.Search
import SparseV.Spec.Slice
